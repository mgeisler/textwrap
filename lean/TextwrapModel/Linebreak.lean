/-
  Linebreak: `unicode_linebreak::linebreaks` (unicode-linebreak 0.1.5, src/lib.rs:89-114) — the
  crate behind `WordSeparator::UnicodeBreakProperties`. The routine is a scan over
  `s.char_indices()` followed by the end-of-text pseudo class: a state (row of the pair table, "the
  previous class was ZWJ") is carried from character to character, the entry
  `PAIR_TABLE[state][class]` says whether a break is allowed / mandatory before the character and
  what the next state is. The tables are parameters (`LbTables`); the driver instantiates them from
  the crate's own `tables.rs` / `break_property` (regenerated on every run) and compares the
  opportunities computed here with those the real crate returned, on every case.
-/
import TextwrapModel.Bytes
namespace TW

structure LbTables where
  /-- `PAIR_TABLE[state][class]`, the raw byte -/
  pair : Nat → Nat → Nat
  /-- `break_property(c) as u8` -/
  cls : Char → Nat
  /-- `val & ALLOWED_BREAK_BIT != 0` -/
  allowed : Nat → Bool
  /-- `val & MANDATORY_BREAK_BIT != 0` -/
  mandatory : Nat → Bool
  /-- `val & !(ALLOWED_BREAK_BIT | MANDATORY_BREAK_BIT)` -/
  next : Nat → Nat
  sot : Nat
  eot : Nat
  zwj : Nat

/-- is a break reported for table entry `val` when the previous class was (not) ZWJ:
    `val & ALLOWED != 0 && (!state.1 || is_mandatory)` -/
def LbTables.isBreak (T : LbTables) (val : Nat) (zw : Bool) : Bool :=
  T.allowed val && (!zw || T.mandatory val)

/-- the scan + filter_map: `i` is the byte index of the next character -/
def lbGo (T : LbTables) : Nat → Bool → Nat → Text → List Nat
  | st, zw, i, [] => if T.isBreak (T.pair st T.eot) zw then [i] else []
  | st, zw, i, c :: cs =>
    let k := T.cls c
    let val := T.pair st k
    let rest := lbGo T (T.next val) (k == T.zwj) (i + c.utf8Size) cs
    if T.isBreak val zw then i :: rest else rest

/-- `linebreaks(s).map(|(i, _)| i)` -/
def ownOpps (T : LbTables) (s : Text) : List Nat := lbGo T T.sot false 0 s

end TW
