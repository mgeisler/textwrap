/-
  Indent: `indent` (indentation.rs:52-75) and `dedent` (indentation.rs:95-155).
-/
import TextwrapModel.Std
namespace TW

/-- the `for (idx, line) in s.split_terminator('\n').enumerate()` loop -/
def indentLines (isWs : Char → Bool) (pre trimmedPre : Text) : List Text → Nat → Text
  | [], _ => []
  | line :: rest, idx =>
    (if idx = 0 then [] else [LF]) ++
    (if (line.all isWs) then trimmedPre else pre) ++ line ++ indentLines isWs pre trimmedPre rest (idx + 1)

/-- `textwrap::indent` -/
def indent (isWs : Char → Bool) (s pre : Text) : Text :=
  indentLines isWs pre (trimEndBy isWs pre) (splitTerminatorLF s) 0 ++
    (if s.getLast? = some LF then [LF] else [])

/-- leading whitespace run of a line -/
def leadingWs (isWs : Char → Bool) : Text → Text
  | [] => []
  | c :: cs => if isWs c then c :: leadingWs isWs cs else []

/-- first loop of `dedent`: find the first line with a non-whitespace char; returns its leading
    whitespace and the lines after it -/
def dedentSeed (isWs : Char → Bool) : List Text → Text × List Text
  | [] => ([], [])
  | line :: rest =>
    if line.all isWs then dedentSeed isWs rest else (leadingWs isWs line, rest)

/-- `for ((idx, a), b) in line.char_indices().zip(prefix.chars())`: `some p` = mismatch found
    with `p = line[..idx]`; `none` = no mismatch (whitespace_idx stays `line.len()`) -/
def zipMismatchLine : Text → Text → Option Text
  | [], _ => none
  | _, [] => none
  | a :: as, b :: bs => if a = b then (zipMismatchLine as bs).map (a :: ·) else some []

/-- body of the narrowing loop for one line: `whitespace_idx` is the byte offset of the first
    mismatch (else `line.len()`); the prefix shrinks to `line[..whitespace_idx]` if that is
    shorter than both -/
def narrowStep (line pre : Text) : Text :=
  match zipMismatchLine line pre with
  | some p => if blen p < blen line ∧ blen p < blen pre then p else pre
  | none => pre

/-- second loop of `dedent`: whitespace-only lines are skipped -/
def dedentNarrow (isWs : Char → Bool) : List Text → Text → Text
  | [], pre => pre
  | line :: rest, pre =>
    if line.all isWs then dedentNarrow isWs rest pre
    else dedentNarrow isWs rest (narrowStep line pre)

def dedentOut (isWs : Char → Bool) (pre : Text) : List Text → Text
  | [] => []
  | line :: rest =>
    (if pre.isPrefixOf line && line.any (fun c => !isWs c) then line.drop pre.length else []) ++
      [LF] ++ dedentOut isWs pre rest

/-- `textwrap::dedent` -/
def dedent (isWs : Char → Bool) (s : Text) : Text :=
  let ls := lines s
  let (seed, rest) := dedentSeed isWs ls
  let pre := dedentNarrow isWs rest seed
  let result := dedentOut isWs pre ls
  if result.getLast? = some LF ∧ s.getLast? ≠ some LF then result.dropLast else result

end TW
