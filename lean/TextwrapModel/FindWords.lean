/-
  FindWords: `find_words_ascii_space` (word_separators.rs:191-216) and
  `find_words_unicode_break_properties` (word_separators.rs:249-311).
-/
import TextwrapModel.Word
namespace TW

/-- ASCII separator loop. `cur` is `line[start..idx]`; a word ends where a space is followed by
    a non-space. -/
def asciiGo : Text → Bool → Text → List Text
  | cur, _, [] => if cur.isEmpty then [] else [cur]
  | cur, inWs, c :: cs =>
    if inWs && c != SP then cur :: asciiGo [c] false cs
    else asciiGo (cur ++ [c]) (c == SP) cs

def findWordsAscii (cw : Char → Nat) (line : Text) : List Word :=
  (asciiGo [] false line).map (Word.from cw)

/-- the opportunity filter (word_separators.rs:276-289): `stripped[..idx].chars().next_back()`;
    `none` = the slice panics. -/
def keepOpp (stripped : Text) (o : Nat) : Option Bool :=
  match charBefore? stripped o with
  | some p => some (p != some HY && p != some SHY)
  | none => none

def filterOpps (stripped : Text) : List Nat → Option (List Nat)
  | [] => some []
  | o :: os =>
    match keepOpp stripped o, filterOpps stripped os with
    | some k, some r => some (if k then o :: r else r)
    | _, _ => none

/-- The word loop over the index map, char by char. A character met in skipper state `normal`
    has an `idx_map` entry `(orig_idx, st)`; `Iterator::find` consumes entries until one has
    `stripped_idx == o`; the word `line[start..orig_idx]` (= `cur`) is emitted there and the
    matching character starts the next word. Characters consumed by the escape skipper have no
    entry. When the opportunities run out, or the map does, the rest is one word. -/
def uniGo : Ansi → Nat → Text → List Nat → Text → List Text
  | _, _, cur, _, [] => if cur.isEmpty then [] else [cur]
  | s, st, cur, opps, c :: cs =>
    let r := s.step c
    let st' := if r.2 then st + c.utf8Size else st
    match s, opps with
    | .normal, o :: os =>
      if st = o then cur :: uniGo r.1 st' [c] os cs
      else uniGo r.1 st' (cur ++ [c]) (o :: os) cs
    | _, _ => uniGo r.1 st' (cur ++ [c]) opps cs

/-- opportunities actually used: the end-of-text opportunity is dropped by position
    (`*idx < stripped.len()`), then the `-`/SHY filter is applied -/
def usedOpps (stripped : Text) (opps : List Nat) : Option (List Nat) :=
  filterOpps stripped (opps.filter (· < blen stripped))

def findWordsUnicode (env : Env) (line : Text) : Option (List Word) :=
  let stripped := stripAnsi line
  match usedOpps stripped (env.opps stripped) with
  | some os => some ((uniGo .normal 0 [] os line).map (Word.from env.cw))
  | none => none

inductive Sep where
  | ascii
  | unicode
  deriving DecidableEq, Repr, Inhabited

def findWords (env : Env) : Sep → Text → Option (List Word)
  | .ascii, line => some (findWordsAscii env.cw line)
  | .unicode, line => findWordsUnicode env line

end TW
