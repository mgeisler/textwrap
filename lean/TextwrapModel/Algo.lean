/-
  Algo: `wrap_first_fit` (wrap_algorithms.rs:336-357) and `wrap_optimal_fit`
  (optimal_fit.rs:160-182, 302-399), generic over the number type. The driver runs them on
  `Float` (IEEE doubles, as Rust's `f64`); order-dependent theorems instantiate `Int`.
-/
import TextwrapModel.Split
namespace TW

/-- what the two algorithms need from `f64` -/
class CostNum (α : Type) extends Add α, Sub α, Mul α, LT α, Zero α where
  ofNat : Nat → α
  /-- `x.max(1.0)` -/
  max1 : α → α
  /-- `line_width < target_width / fraction as f64` -/
  shortLine : α → α → Nat → Bool
  /-- `f64::is_infinite` -/
  isInf : α → Bool
  /-- `a <= b` of `PartialOrd` (false when either side is NaN); used by the model of `smawk` -/
  le : α → α → Bool
  /-- `a == b` of `PartialEq` (false when either side is NaN); used by the model of `smawk` -/
  eqv : α → α → Bool
  decLt : DecidableRel (α := α) (· < ·)

instance {α} [CostNum α] : DecidableRel (α := α) (· < ·) := CostNum.decLt

/-- the three numbers of a `Fragment` -/
structure Frag (α : Type) where
  w : α
  ws : α
  pen : α
  deriving Repr, Inhabited

/-- `line_widths.last().copied().unwrap_or(0.0)` -/
def defaultLw {α} [Zero α] (lws : List α) : α := lws.getLast?.getD 0

section FirstFit
variable {α : Type} [Add α] [LT α] [Zero α] [DecidableRel (α := α) (· < ·)] {β : Type}

/-- the `for` loop of `wrap_first_fit`; `k` = `lines.len()`, `cur` = `fragments[start..idx]`. -/
def ffGo (m : β → Frag α) (lws : List α) (dflt : α) : Nat → List β → α → List β → List (List β)
  | _, cur, _, [] => [cur]
  | k, cur, width, f :: fs =>
    let lw := lws.getD k dflt
    if lw < width + (m f).w + (m f).pen ∧ ¬ cur.isEmpty then
      cur :: ffGo m lws dflt (k + 1) [f] (0 + ((m f).w + (m f).ws)) fs
    else ffGo m lws dflt k (cur ++ [f]) (width + ((m f).w + (m f).ws)) fs

def wrapFirstFit (m : β → Frag α) (frs : List β) (lws : List α) : List (List β) :=
  ffGo m lws (defaultLw lws) 0 [] 0 frs
end FirstFit

structure Penalties where
  nline : Nat
  overflow : Nat
  shortFrac : Nat
  shortPen : Nat
  hyphen : Nat
  deriving DecidableEq, Repr, Inhabited

section OptimalFit
variable {α : Type} [CostNum α]

/-- prefix sums `widths` (optimal_fit.rs:309-315) -/
def prefixWidths (frs : List (Frag α)) : List α :=
  let rec go (acc : α) : List (Frag α) → List α
    | [] => []
    | f :: fs => let a := acc + (f.w + f.ws); a :: go a fs
  (0 : α) :: go 0 frs

/-- The cost closure (optimal_fit.rs:319-368): cost of ending a line with fragment `j-1` when
    the previous break is before fragment `i`, given the optimal cost `Di` of breaking before
    `i` and the line number `ln` of that line. `W` are the prefix sums, `n` = number of
    fragments, `last` = fragment `j-1`. -/
def lineCost (pen : Penalties) (lws : List α) (n : Nat) (Wi Wj : α) (last : Frag α)
    (Di : α) (ln : Nat) (i j : Nat) : α :=
  let lw := lws.getD ln (defaultLw lws)
  let target := CostNum.max1 lw
  let lineW := Wj - Wi - last.ws + last.pen
  let cost := Di + CostNum.ofNat pen.nline
  let cost :=
    if target < lineW then cost + (lineW - target) * CostNum.ofNat pen.overflow
    else if j < n then cost + (target - lineW) * (target - lineW)
    else if i + 1 = j ∧ CostNum.shortLine lineW target pen.shortFrac then
      cost + CostNum.ofNat pen.shortPen
    else cost
  if (0 : α) < last.pen then cost + CostNum.ofNat pen.hyphen else cost

/-- `M[i,j]` as the closure computes it from the table of `(cost, line number)` built so far -/
def cellCost (pen : Penalties) (lws : List α) (frs : List (Frag α)) (W : List α)
    (tbl : List (α × Nat)) (i j : Nat) : α :=
  let e := tbl.getD i (0, 0)
  lineCost pen lws frs.length (W.getD i 0) (W.getD j 0) (frs.getD (j - 1) ⟨0, 0, 0⟩) e.1 e.2 i j

/-- table `[(D j, line number of j)]` for `j = 0..m`, rebuilt from the minima rows `r`
    (`LineNumbers::get` and `minima[i].1`). -/
def dpTable (pen : Penalties) (lws : List α) (frs : List (Frag α)) (W : List α) (r : Nat → Nat) :
    Nat → List (α × Nat)
  | 0 => [(0, 0)]
  | j + 1 =>
    let tbl := dpTable pen lws frs W r j
    let i := r (j + 1)
    tbl ++ [(cellCost pen lws frs W tbl i (j + 1), (tbl.getD i (0, 0)).2 + 1)]

/-- left-most arg-min of column `j` over rows `0..j-1`, searched from row `i` -/
def argminFrom (cost : Nat → α) : Nat → Nat → Nat → α → Nat
  | 0, _, best, _ => best
  | fuel + 1, i, best, bv =>
    let v := cost i
    if v < bv then argminFrom cost fuel (i + 1) i v else argminFrom cost fuel (i + 1) best bv

/-- naive O(n²) column minima (left-most ties): an executable instance of the `smawk`
    contract. Returns the table and the rows. -/
def naiveMinima (pen : Penalties) (lws : List α) (frs : List (Frag α)) (W : List α) :
    Nat → List (α × Nat) × List Nat
  | 0 => ([(0, 0)], [0])
  | j + 1 =>
    let (tbl, rows) := naiveMinima pen lws frs W j
    let c := fun i => cellCost pen lws frs W tbl i (j + 1)
    let i := argminFrom c j 1 0 (c 0)
    (tbl ++ [(c i, (tbl.getD i (0, 0)).2 + 1)], rows ++ [i])

/-- the back-tracking `loop` (optimal_fit.rs:386-398), with fuel; `none` = an index panics
    (`prev > pos`) or the fuel ran out (would loop forever). Returns `(start, end)` pairs,
    last line first. -/
def backtrackGo (r : Nat → Nat) : Nat → Nat → Option (List (Nat × Nat))
  | 0, _ => none
  | fuel + 1, pos =>
    let prev := r pos
    if pos < prev then none
    else if prev = 0 then some [(prev, pos)]
    else match backtrackGo r fuel prev with
      | some l => some ((prev, pos) :: l)
      | none => none

inductive OfResult (β : Type) where
  | ok (lines : List (List β))
  | overflow                     -- `Err(OverflowError)`
  | panic                        -- index out of range / endless loop
  deriving Repr

/-- `wrap_optimal_fit`, given the rows `rows` that `smawk::online_column_minima` returned
    (`rows[j]` = `minima[j].0`). -/
def wrapOptimalFitWith {β : Type} (m : β → Frag α) (pen : Penalties) (frs : List β) (lws : List α)
    (rows : List Nat) : OfResult β :=
  let fr := frs.map m
  let n := frs.length
  let W := prefixWidths fr
  let r := fun j => rows.getD j 0
  let tbl := dpTable pen lws fr W r n
  if tbl.any (fun e => CostNum.isInf e.1) then .overflow
  else match backtrackGo r (n + 1) n with
    | none => .panic
    | some segs => .ok (segs.reverse.map fun (a, b) => (frs.drop a).take (b - a))

/-- the same with the model's own (naive, left-most) column minima -/
def wrapOptimalFitNaive {β : Type} (m : β → Frag α) (pen : Penalties) (frs : List β) (lws : List α) :
    OfResult β :=
  let fr := frs.map m
  wrapOptimalFitWith m pen frs lws (naiveMinima pen lws fr (prefixWidths fr) frs.length).2

end OptimalFit

end TW
