/-
  Std: the `std::str` functions the crate calls, modelled on `List Char`.
  Each has a driver operation and is compared with the real std function (rustc 1.95).
-/
import TextwrapModel.Bytes
namespace TW

def LF : Char := Char.ofNat 10
def CR : Char := Char.ofNat 13
def ESC : Char := Char.ofNat 27
def BEL : Char := Char.ofNat 7
def SHY : Char := Char.ofNat 0xad
def SP : Char := ' '
def HY : Char := '-'

/-- prepend a char to the first piece -/
def consHead (c : Char) : List Text → List Text
  | [] => [[c]]
  | h :: t => (c :: h) :: t

/-- `str::split('\n')` / `split("\n")`: n matches give n+1 pieces -/
def splitLF : Text → List Text
  | [] => [[]]
  | c :: cs => if c = LF then [] :: splitLF cs else consHead c (splitLF cs)

/-- `str::split("\r\n")`: non-overlapping matches, left to right -/
def splitCRLF : Text → List Text
  | [] => [[]]
  | [c] => [[c]]
  | c :: d :: cs =>
    if c = CR ∧ d = LF then [] :: splitCRLF cs
    else consHead c (splitCRLF (d :: cs))

/-- `str::split_terminator('\n')`: as `split`, a trailing empty piece is skipped -/
def splitTerminatorLF (t : Text) : List Text :=
  let ps := splitLF t
  match ps.getLast? with
  | some [] => ps.dropLast
  | _ => ps

/-- `str::split_inclusive('\n')`: pieces keep their terminator; no trailing empty piece -/
def splitInclusiveLF : Text → List Text
  | [] => []
  | c :: cs =>
    if c = LF then [c] :: splitInclusiveLF cs
    else match splitInclusiveLF cs with
      | [] => [[c]]
      | h :: t => (c :: h) :: t

/-- strip one trailing `c` if present (`str::strip_suffix(char)`) -/
def stripSuffixChar? (t : Text) (c : Char) : Option Text :=
  match t.getLast? with
  | some d => if d = c then some t.dropLast else none
  | none => none

/-- one element of `str::lines()` from one element of `split_inclusive('\n')` (rustc ≥ 1.77:
    a `\r` is stripped only together with its `\n`) -/
def stripLineEnding (l : Text) : Text :=
  match stripSuffixChar? l LF with
  | none => l
  | some l1 =>
    match stripSuffixChar? l1 CR with
    | none => l1
    | some l2 => l2

/-- `str::lines()` -/
def lines (t : Text) : List Text := (splitInclusiveLF t).map stripLineEnding

/-- `trim_end_matches(' ')` -/
def trimEndSp : Text → Text
  | [] => []
  | c :: cs =>
    match trimEndSp cs with
    | [] => if c = SP then [] else [c]
    | r => c :: r

/-- `trim_end_matches(p)` for a char predicate -/
def trimEndBy (p : Char → Bool) : Text → Text
  | [] => []
  | c :: cs =>
    match trimEndBy p cs with
    | [] => if p c then [] else [c]
    | r => c :: r

/-- `trim_start_matches(p)` -/
def trimStartBy (p : Char → Bool) : Text → Text
  | [] => []
  | c :: cs => if p c then trimStartBy p cs else c :: cs

/-- `str::ends_with(&str)` -/
def endsWith (t s : Text) : Bool := s.isSuffixOf t

/-- `str::starts_with(&str)` -/
def startsWith (t s : Text) : Bool := s.isPrefixOf t

/-- `str::strip_suffix(&str)` -/
def stripSuffix? (t s : Text) : Option Text :=
  if s.isSuffixOf t then some (t.take (t.length - s.length)) else none

/-- byte offset of the first `'\n'` (`str::find('\n')`) -/
def findLF : Text → Option Nat
  | [] => none
  | c :: cs => if c = LF then some 0 else (findLF cs).map (· + c.utf8Size)

/-- `Vec<&str>::join` / pushing pieces separated by `sep` -/
def joinWith (sep : Text) : List Text → Text
  | [] => []
  | [a] => a
  | a :: b :: r => a ++ sep ++ joinWith sep (b :: r)

/-- look up a code point in a run-length table `[(start, value)]` sorted by `start`;
    value of the last run whose start is `≤ n`, `d` before the first run -/
def lookupRuns : List (Nat × Nat) → Nat → Nat → Nat
  | [], _, d => d
  | (s, v) :: rest, n, d => if n < s then d else lookupRuns rest n v

end TW
