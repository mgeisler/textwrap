/-
  Wrap: `WrapAlgorithm::wrap` (wrap_algorithms.rs:156-179), `wrap_single_line`,
  `wrap_single_line_slow_path`, `wrap` (wrap.rs:180-309), `fill`, `fill_slow_path`,
  `fill_inplace` (fill.rs:36-66, 120-153).
-/
import TextwrapModel.Smawk
namespace TW

inductive LineEnding where
  | lf
  | crlf
  deriving DecidableEq, Repr, Inhabited

def LineEnding.str : LineEnding → Text
  | .lf => [LF]
  | .crlf => [CR, LF]

/-- `text.split(line_ending_str)` -/
def splitEnding : LineEnding → Text → List Text
  | .lf, t => splitLF t
  | .crlf, t => splitCRLF t

inductive Alg where
  | firstFit
  | optimalFit (p : Penalties)
  deriving DecidableEq, Repr, Inhabited

structure Opts where
  width : Nat
  initialIndent : Text
  subsequentIndent : Text
  breakWords : Bool
  sep : Sep
  splitter : Splitter
  alg : Alg
  lineEnding : LineEnding

/-- what `smawk::online_column_minima` returned for a fragment list and line widths:
    `rows[j] = minima[j].0` (external; see `Env`) -/
abbrev MinimaOracle (α : Type) := List (Frag α) → List α → List Nat

section
variable {α : Type} [CostNum α]

/-- the minima the model's own `smawk` (TextwrapModel/Smawk.lean) computes for penalties `pen`:
    with this oracle the model of `wrap` is self-contained -/
def ownMinima (pen : Penalties) : MinimaOracle α := fun frs lws =>
  match onlineColumnMinima (costClosure pen lws frs (prefixWidths frs)) 0 (prefixWidths frs).length with
  | some minima => minima.map (·.1)
  | none => []

/-- `Fragment for Word`: `width as f64`, `whitespace.len() as f64`, `penalty.len() as f64` -/
def fragOf (w : Word) : Frag α :=
  ⟨CostNum.ofNat w.width, CostNum.ofNat (blen w.ws), CostNum.ofNat (blen w.pen)⟩

/-- `WrapAlgorithm::wrap`; `none` = the `unwrap()` of an `OverflowError`, or a panic inside -/
def wrapAlg (mo : MinimaOracle α) : Alg → List Word → List Nat → Option (List (List Word))
  | .firstFit, ws, lws => some (wrapFirstFit (fragOf (α := α)) ws (lws.map CostNum.ofNat))
  | .optimalFit p, ws, lws =>
    let flws : List α := lws.map CostNum.ofNat
    match wrapOptimalFitWith (fragOf (α := α)) p ws flws (mo (ws.map fragOf) flws) with
    | .ok ls => some ls
    | _ => none

/-- one output line: `indent ++ line[start..start+len] ++ pen`; `borrowed` = `Cow::Borrowed`;
    `inBuf` = the borrowed slice points into the caller's buffer (false for `Cow::from("")`). -/
structure LineD where
  indent : Text
  start : Nat
  len : Nat
  slice : Text
  pen : Text
  borrowed : Bool
  inBuf : Bool
  deriving DecidableEq, Repr, Inhabited

def LineD.render (d : LineD) : Text := d.indent ++ d.slice ++ d.pen

/-- the reassembly loop (wrap.rs:254-308). `nPrev` = `lines.len()` on entry of this iteration. -/
def reassemble (o : Opts) (line : Text) : List (List Word) → Nat → Nat → Option (List LineD)
  | [], _, _ => some []
  | g :: gs, idx, n =>
    match g.getLast? with
    | none =>
      -- an empty paragraph still carries its indent (`Cow::from("")` when the indent is empty)
      let indent := if n = 0 then o.initialIndent else o.subsequentIndent
      match reassemble o line gs idx (n + 1) with
      | some r => some ({ indent := indent, start := idx, len := 0, slice := [], pen := [],
                          borrowed := indent.isEmpty, inBuf := false } :: r)
      | none => none
    | some last =>
      let total := (g.map fun w => blen w.word + blen w.ws).sum
      if total < blen last.ws then none            -- `usize` underflow
      else
        let len := total - blen last.ws
        let indent := if n = 0 then o.initialIndent else o.subsequentIndent
        match slice? line idx (idx + len), reassemble o line gs (idx + len + blen last.ws) (n + 1) with
        | some s, some r =>
          some ({ indent := indent, start := idx, len := len, slice := s, pen := last.pen,
                  borrowed := indent.isEmpty && last.pen.isEmpty, inBuf := true } :: r)
        | _, _ => none

/-- the fragment pipeline of the slow path (wrap.rs:235-250) -/
def pipeline (env : Env) (o : Opts) (line : Text) (subsequentWidth : Nat) : Option (List Word) :=
  match findWords env o.sep line with
  | none => none
  | some ws =>
    match splitWords env o.splitter ws with
    | none => none
    | some sw =>
      if o.breakWords then
        let bw := breakWords env.cw subsequentWidth sw
        if o.initialIndent.isEmpty then some bw else some (Word.from env.cw [] :: bw)
      else some sw

def wrapSingleLineSlow (env : Env) (mo : MinimaOracle α) (o : Opts) (line : Text) (nPrev : Nat) :
    Option (List LineD) :=
  let initialWidth := o.width - displayWidth env.cw o.initialIndent
  let subsequentWidth := o.width - displayWidth env.cw o.subsequentIndent
  match pipeline env o line subsequentWidth with
  | none => none
  | some words =>
    -- the first line of this paragraph carries the initial indent only if it is the very first
    -- line of the output
    let firstLineWidth := if nPrev = 0 then initialWidth else subsequentWidth
    match wrapAlg mo o.alg words [firstLineWidth, subsequentWidth] with
    | none => none
    | some groups => reassemble o line groups 0 nPrev

def wrapSingleLine (env : Env) (mo : MinimaOracle α) (o : Opts) (line : Text) (nPrev : Nat) :
    Option (List LineD) :=
  let indent := if nPrev = 0 then o.initialIndent else o.subsequentIndent
  if blen line < o.width ∧ indent.isEmpty then
    let t := trimEndSp line
    some [{ indent := [], start := 0, len := blen t, slice := t, pen := [], borrowed := true, inBuf := true }]
  else wrapSingleLineSlow env mo o line nPrev

/-- the `for line in text.split(..)` loop; `off` = byte offset of the paragraph in `text` -/
def wrapParas (endingLen : Nat) (single : Text → Nat → Option (List LineD)) :
    List Text → Nat → Nat → Option (List LineD)
  | [], _, _ => some []
  | p :: ps, off, nPrev =>
    match single p nPrev with
    | none => none
    | some ls =>
      match wrapParas endingLen single ps (off + blen p + endingLen) (nPrev + ls.length) with
      | some r => some (ls.map (fun d => { d with start := d.start + off }) ++ r)
      | none => none

/-- `textwrap::wrap`, as line descriptors (start offsets relative to `text`) -/
def wrapD (env : Env) (mo : MinimaOracle α) (o : Opts) (text : Text) : Option (List LineD) :=
  wrapParas (blen o.lineEnding.str) (wrapSingleLine env mo o) (splitEnding o.lineEnding text) 0 0

/-- `textwrap::wrap` -/
def wrap (env : Env) (mo : MinimaOracle α) (o : Opts) (text : Text) : Option (List Text) :=
  (wrapD env mo o text).map (·.map LineD.render)

/-- `fill_slow_path` -/
def fillSlow (env : Env) (mo : MinimaOracle α) (o : Opts) (text : Text) : Option Text :=
  (wrap env mo o text).map (joinWith o.lineEnding.str)

/-- `textwrap::fill` -/
def fill (env : Env) (mo : MinimaOracle α) (o : Opts) (text : Text) : Option Text :=
  if blen text < o.width ∧ ¬ text.contains LF ∧ o.initialIndent.isEmpty then some (trimEndSp text)
  else fillSlow env mo o text

/-- replace the byte at offset `n` by `'\n'` provided that byte is a one-byte char (`bytes[idx] =
    b'\n'` followed by `String::from_utf8(..).unwrap()`): `none` if `n` is out of range (index
    panic) or inside/at a multi-byte char (`from_utf8` fails). -/
def setNewlineAt : Text → Nat → Option Text
  | [], _ => none
  | c :: cs, 0 => if c.utf8Size = 1 then some (LF :: cs) else none
  | c :: cs, n + 1 =>
    if c.utf8Size ≤ n + 1 then (setNewlineAt cs (n + 1 - c.utf8Size)).map (c :: ·) else none

/-- indices pushed for one paragraph (fill.rs:131-141): all groups but the last -/
def inplaceIndices : List (List Word) → Nat → Option (List Nat)
  | [], _ => some []
  | [_], _ => some []
  | g :: g2 :: gs, lineOffset =>
    let lo := lineOffset + (g.map fun w => blen w.word + blen w.ws).sum
    if lo = 0 then none                                  -- `line_offset - 1` underflows
    else (inplaceIndices (g2 :: gs) lo).map ((lo - 1) :: ·)

def inplaceParas (α : Type) [CostNum α] (cw : Char → Nat) (width : Nat) : List Text → Nat → Option (List Nat)
  | [], _ => some []
  | p :: ps, offset =>
    let words := findWordsAscii cw p
    let groups := wrapFirstFit (fragOf (α := α)) words [CostNum.ofNat width]
    match inplaceIndices groups offset, inplaceParas α cw width ps (offset + blen p + 1) with
    | some a, some b => some (a ++ b)
    | _, _ => none

/-- `textwrap::fill_inplace` -/
def fillInplace (α : Type) [CostNum α] (cw : Char → Nat) (text : Text) (width : Nat) : Option Text :=
  match inplaceParas α cw width (splitLF text) 0 with
  | none => none
  | some idxs => idxs.foldl (fun acc i => acc.bind (setNewlineAt · i)) (some text)

end

end TW
