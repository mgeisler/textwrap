/-
  Word: `core::Word` (core.rs:245-254), `Word::from` (core.rs:269-277), `break_apart`
  (core.rs:292-331), `break_words` (core.rs:360-373).
-/
import TextwrapModel.Ansi
namespace TW

structure Word where
  word : Text
  ws : Text
  pen : Text
  width : Nat
  deriving DecidableEq, Repr, Inhabited

/-- `Word::from`: the trailing stretch of `' '` becomes the whitespace part;
    `&word[trimmed.len()..]` is the rest after the trimmed prefix. -/
def Word.from (cw : Char → Nat) (t : Text) : Word :=
  let trimmed := trimEndSp t
  { word := trimmed, ws := t.drop trimmed.length, pen := [], width := displayWidth cw trimmed }

/-- `Word::break_apart`: pieces are cut only before a visible character met in state `normal`,
    when `width > 0 && width + ch_width(ch) > line_width`; the rest (if non-empty) carries the
    whitespace and penalty. `cur` is `word[offset..idx]`. -/
def breakGo (cw : Char → Nat) (limit : Nat) (ws pen : Text) : Ansi → Text → Nat → Text → List Word
  | _, cur, width, [] =>
    if cur.isEmpty then [] else [{ word := cur, width := width, ws := ws, pen := pen }]
  | s, cur, width, c :: cs =>
    let r := s.step c
    if r.2 then
      if 0 < width ∧ limit < width + cw c then
        { word := cur, width := width, ws := [], pen := [] } :: breakGo cw limit ws pen r.1 [c] (cw c) cs
      else breakGo cw limit ws pen r.1 (cur ++ [c]) (width + cw c) cs
    else breakGo cw limit ws pen r.1 (cur ++ [c]) width cs

def breakApart (cw : Char → Nat) (limit : Nat) (w : Word) : List Word :=
  breakGo cw limit w.ws w.pen .normal [] 0 w.word

/-- `core::break_words` (uses the cached width) -/
def breakWords (cw : Char → Nat) (limit : Nat) : List Word → List Word
  | [] => []
  | w :: ws => (if limit < w.width then breakApart cw limit w else [w]) ++ breakWords cw limit ws

end TW
