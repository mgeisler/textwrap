/-
  Refill: `NonEmptyLines` (line_ending.rs:37-60), `unfill` (refill.rs:62-114),
  `refill` (refill.rs:169-188).
-/
import TextwrapModel.Wrap
namespace TW

/-- `NonEmptyLines::next`, over the `'\n'`-separated pieces: every piece but the last was found
    through `find('\n')`; empty pieces and a lone `"\r"` are skipped. -/
def nelGo : List Text → List (Text × Option LineEnding)
  | [] => []
  | [last] => if last.isEmpty then [] else [(last, none)]
  | p :: q :: rest =>
    (if p.isEmpty || p == [CR] then []
     else if p.getLast? = some CR then [(p.dropLast, some LineEnding.crlf)]
     else [(p, some LineEnding.lf)]) ++ nelGo (q :: rest)

def nonEmptyLines (t : Text) : List (Text × Option LineEnding) := nelGo (splitLF t)

/-- `refill.rs:63` -/
def prefixChars : List Char := [' ', '-', '+', '*', '>', '#', '/']

def isPrefixChar (c : Char) : Bool := prefixChars.contains c

/-- the `for ((idx, x), y) in prefix.char_indices().zip(sub.chars())` loop: `some p` = a mismatch
    was found and `p = prefix[..idx]` -/
def zipMismatch : Text → Text → Option Text
  | [], _ => none
  | _, [] => none
  | x :: xs, y :: ys => if x = y then (zipMismatch xs ys).map (x :: ·) else some []

structure Unfilled where
  text : Text
  width : Nat
  initialIndent : Text
  subsequentIndent : Text
  lineEnding : LineEnding
  deriving DecidableEq, Repr

/-- first loop of `unfill` over `text.lines()`: (width, initial, subsequent) -/
def unfillScan (cw : Char → Nat) : List Text → Nat → Nat × Text × Text → Nat × Text × Text
  | [], _, acc => acc
  | line :: rest, idx, (width, ini, sub) =>
    let width := max width (displayWidth cw line)
    let withoutPrefix := trimStartBy isPrefixChar line
    let pre := line.take (line.length - withoutPrefix.length)
    let acc :=
      if idx = 0 then (width, pre, sub)
      else if idx = 1 then (width, ini, pre)
      else
        let sub1 := match zipMismatch pre sub with
          | some p => p
          | none => sub
        let sub2 := if blen pre < blen sub1 then pre else sub1
        (width, ini, sub2)
    unfillScan cw rest (idx + 1) acc

/-- the line-ending detection of the second loop (refill.rs:98-102) -/
def detStep (d : Option LineEnding) (ending : Option LineEnding) : Option LineEnding :=
  match d, ending with
  | none, some e => some e
  | some .crlf, some .lf => some .lf
  | d, _ => d

/-- second loop over `NonEmptyLines`; `none` = a slice panics -/
def unfillJoin (ini sub : Text) : List (Text × Option LineEnding) → Nat → Text → Option LineEnding →
    Option (Text × Option LineEnding)
  | [], _, acc, det => some (acc, det)
  | (line, ending) :: rest, idx, acc, det =>
    let piece := if idx = 0 then sliceFrom? line (blen ini) else (sliceFrom? line (blen sub)).map (SP :: ·)
    match piece with
    | none => none
    | some p =>
      unfillJoin ini sub rest (idx + 1) (acc ++ p) (detStep det ending)

/-- `textwrap::unfill` -/
def unfill (cw : Char → Nat) (text : Text) : Option Unfilled :=
  let (width, ini, sub) := unfillScan cw (lines text) 0 (0, [], [])
  match unfillJoin ini sub (nonEmptyLines text) 0 [] none with
  | none => none
  | some (unfilled, det) =>
    let unfilled := match det with
      | some le => if endsWith text le.str then unfilled ++ le.str else unfilled
      | none => unfilled
    some { text := unfilled, width := width, initialIndent := ini, subsequentIndent := sub,
           lineEnding := det.getD .lf }

/-- `textwrap::refill` -/
def refill {α : Type} [CostNum α] (env : Env) (mo : MinimaOracle α) (o : Opts) (filled : Text) :
    Option Text :=
  match unfill env.cw filled with
  | none => none
  | some u =>
    let stripped := stripSuffix? u.text u.lineEnding.str
    let o' := { o with initialIndent := u.initialIndent, subsequentIndent := u.subsequentIndent }
    match fill env mo o' (stripped.getD u.text) with
    | none => none
    | some r => some (if stripped.isSome then r ++ o.lineEnding.str else r)

end TW
