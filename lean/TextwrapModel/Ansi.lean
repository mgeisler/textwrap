/-
  Ansi: `skip_ansi_escape_sequence` (core.rs:52-83) as one state machine; `display_width`
  (core.rs:205-215) and `strip_ansi_escape_sequences` (word_separators.rs:220-232) are folds
  of it — the same sharing as in Rust.
-/
import TextwrapModel.Std
namespace TW

/-- skipper state between two characters -/
inductive Ansi where
  | normal
  | esc                      -- ESC seen, next char is always consumed
  | csi                      -- inside `ESC [ …`, until a final byte `@..~`
  | osc (lastEsc : Bool)     -- inside `ESC ] …`, until BEL or `ESC \`
  deriving DecidableEq, Repr, Inhabited

def isFinalByte (c : Char) : Bool := 0x40 ≤ c.toNat && c.toNat ≤ 0x7e

/-- one character: new state, and whether the character is *visible* (counted / kept) -/
def Ansi.step : Ansi → Char → Ansi × Bool
  | .normal, c => if c = ESC then (.esc, false) else (.normal, true)
  | .esc, c =>
    if c = '[' then (.csi, false)
    else if c = ']' then (.osc false, false)
    else (.normal, false)
  | .csi, c => if isFinalByte c then (.normal, false) else (.csi, false)
  | .osc l, c =>
    if c = BEL || (c = '\\' && l) then (.normal, false)
    else (.osc (c = ESC), false)

/-- state after scanning `t` from state `s` -/
def Ansi.run : Ansi → Text → Ansi
  | s, [] => s
  | s, c :: cs => Ansi.run (s.step c).1 cs

/-- display width from a given state -/
def dwFrom (cw : Char → Nat) : Ansi → Text → Nat
  | _, [] => 0
  | s, c :: cs =>
    let r := s.step c
    (if r.2 then cw c else 0) + dwFrom cw r.1 cs

/-- `core::display_width` -/
def displayWidth (cw : Char → Nat) (t : Text) : Nat := dwFrom cw .normal t

/-- stripping from a given state -/
def stripFrom : Ansi → Text → Text
  | _, [] => []
  | s, c :: cs =>
    let r := s.step c
    if r.2 then c :: stripFrom r.1 cs else stripFrom r.1 cs

/-- `strip_ansi_escape_sequences` -/
def stripAnsi (t : Text) : Text := stripFrom .normal t

/-- The external data the crate consults: width table, char classes, and the UAX #14
    opportunities of a stripped line, as parameters (Aeneas style); the other external algorithm,
    `smawk`'s column minima, is the separate parameter `MinimaOracle` (`TextwrapModel/Wrap.lean`).
    Theorems quantify over every `Env` satisfying explicit side conditions; the driver
    instantiates it from regenerated tables and from what the real crates returned on this very
    input. -/
structure Env where
  cw : Char → Nat
  isAlnum : Char → Bool
  isWs : Char → Bool
  /-- `unicode_linebreak::linebreaks(stripped)`: byte offsets of the break opportunities -/
  opps : Text → List Nat

/-- every character satisfying `P` is met in skipper state `normal` (executable form of
    `MetNormal`, `Lemmas/HNormPipeline.lean`) -/
def metNormalB (P : Char → Bool) : Ansi → Text → Bool
  | _, [] => true
  | s, c :: cs => (!P c || s == .normal) && metNormalB P (s.step c).1 cs

/-- executable form of `SeqSafe`: every space (and every `'-'` if `hy`) is met in state
    `normal`, and the text ends in state `normal` -/
def seqSafeB (hy : Bool) (t : Text) : Bool :=
  metNormalB (fun c => c == ' ' || (hy && c == '-')) .normal t && (Ansi.run .normal t == .normal)

end TW
