/-
  Smawk: `smawk::online_column_minima` and `smawk_inner` (smawk 0.3.2, src/lib.rs:250-417) and
  the closure `wrap_optimal_fit` hands to it (optimal_fit.rs:319-368, `LineNumbers::get`
  optimal_fit.rs:160-182), so that the model of `wrap_optimal_fit` is self-contained: it
  computes its own column minima by the algorithm the crate really runs.

  Every Rust panic site is an explicit `none`: the two `assert!`s of the `m!` macro, every
  slice/vector index (`cols[..]`, `rows[r]`, `minima[..]`, `result[..]`), the unbounded
  recursion of `LineNumbers::get` on an ill-shaped prefix, the `size - 1` underflow.
-/
import TextwrapModel.Num
namespace TW

section Smawk
variable {α : Type} [CostNum α]

/-- `(a, x) < (b, y)` of `PartialOrd for (T, usize)` (lexicographic through `partial_cmp`) -/
def tupLt (a : α) (x : Nat) (b : α) (y : Nat) : Bool :=
  if a < b then true else if CostNum.eqv a b then decide (x < y) else false

/-- the `while !stack.is_empty() && matrix(stack[len-1], cols[len-1]) > matrix(r, cols[len-1])
    { stack.pop() }` loop; the stack is kept top-first. -/
def smawkPop (m : Nat → Nat → Option α) (cols : List Nat) (r : Nat) : List Nat → Option (List Nat)
  | [] => some []
  | top :: rest =>
    match cols[rest.length]? with
    | none => none
    | some c =>
      match m top c, m r c with
      | some a, some b => if b < a then smawkPop m cols r rest else some (top :: rest)
      | _, _ => none

/-- the `for r in rows` reduce loop of `smawk_inner`; returns the stack top-first -/
def smawkReduce (m : Nat → Nat → Option α) (cols : List Nat) : List Nat → List Nat → Option (List Nat)
  | [], st => some st
  | r :: rs, st =>
    match smawkPop m cols r st with
    | none => none
    | some st' => smawkReduce m cols rs (if st'.length ≠ cols.length then r :: st' else st')

/-- the columns with odd index -/
def oddElems {γ : Type} : List γ → List γ
  | [] => []
  | [_] => []
  | _ :: b :: t => b :: oddElems t

theorem oddElems_length_le {γ : Type} : ∀ l : List γ, (oddElems l).length ≤ l.length / 2
  | [] => by simp [oddElems]
  | [_] => by simp [oddElems]
  | _ :: b :: t => by
    have := oddElems_length_le t
    simp only [oddElems, List.length_cons]
    omega

/-- the inner `while row != last_row { r += 1; row = rows[r]; … }` loop for one even column;
    `rest` = `rows[r+1..]`. Returns the final `row`, the remaining `rows[r+1..]` and `pair.1`. -/
def smawkScan (m : Nat → Nat → Option α) (col lastRow : Nat) :
    Nat → List Nat → α → Nat → Option (Nat × List Nat × Nat)
  | row, rest, pv, pr =>
    if row = lastRow then some (row, rest, pr)
    else match rest with
      | [] => none                                       -- `rows[r]` out of range
      | x :: rest' =>
        match m x col with
        | none => none
        | some v =>
          if tupLt v x pv pr then smawkScan m col lastRow x rest' v x
          else smawkScan m col lastRow x rest' pv pr

/-- `minima[col] = v` -/
def setAt (l : List Nat) (i v : Nat) : Option (List Nat) :=
  if i < l.length then some (l.set i v) else none

/-- the loop over the even-indexed columns; `cur :: rest` = `rows[r..]`, `lastOfRows` =
    `rows[rows.len() - 1]`. The argument list starts at an even index of `cols`. -/
def smawkInterp (m : Nat → Nat → Option α) (lastOfRows : Nat) :
    List Nat → Nat → List Nat → List Nat → Option (List Nat)
  | [], _, _, mn => some mn
  | [col], cur, rest, mn =>
    match m cur col with
    | none => none
    | some v =>
      match smawkScan m col lastOfRows cur rest v cur with
      | none => none
      | some (_, _, best) => setAt mn col best
  | col :: nxt :: cs, cur, rest, mn =>
    match mn[nxt]?, m cur col with
    | some lastRow, some v =>
      match smawkScan m col lastRow cur rest v cur with
      | none => none
      | some (row, rest', best) =>
        match setAt mn col best with
        | none => none
        | some mn' => smawkInterp m lastOfRows cs row rest' mn'
    | _, _ => none

/-- `smawk_inner(matrix, rows, cols, minima)` -/
def smawkInner (m : Nat → Nat → Option α) (rows cols minima : List Nat) : Option (List Nat) :=
  if cols = [] then some minima
  else
    match smawkReduce m cols rows [] with
    | none => none
    | some st =>
      let rows' := st.reverse
      match smawkInner m rows' (oddElems cols) minima with
      | none => none
      | some mn =>
        match rows' with
        | [] => none                                     -- `rows[0]`
        | cur :: rest => smawkInterp m (rows'.getLast?.getD 0) cols cur rest mn
termination_by cols.length
decreasing_by
  have := oddElems_length_le cols
  have : cols.length ≠ 0 := by
    intro h; exact ‹¬ cols = []› (List.eq_nil_of_length_eq_zero h)
  omega

/-- state of the `while` loop of `online_column_minima` -/
structure Ocm (α : Type) where
  result : List (Nat × α)
  finished : Nat
  base : Nat
  tentative : Nat

/-- the `m!` macro: two assertions, then `matrix(&result[..finished + 1], i, j)` -/
def ocmM (M : List (Nat × α) → Nat → Nat → Option α) (size : Nat) (s : Ocm α) (i j : Nat) : Option α :=
  if i < j ∧ i < size ∧ j < size then
    if s.finished + 1 ≤ s.result.length then M (s.result.take (s.finished + 1)) i j else none
  else none

/-- the `for col in cols { … }` loop after `smawk_inner` (first case) -/
def ocmStore (m : Nat → Nat → Option α) (minima : List Nat) :
    List Nat → List (Nat × α) → Option (List (Nat × α))
  | [], res => some res
  | col :: cs, res =>
    match minima[col]? with
    | none => none
    | some row =>
      match m row col with
      | none => none
      | some v =>
        if res.length ≤ col then ocmStore m minima cs (res ++ [(row, v)])
        else match res[col]? with
          | none => none
          | some old =>
            if v < old.2 then ocmStore m minima cs (res.set col (row, v))
            else ocmStore m minima cs res

/-- one iteration of the `while finished < size - 1` loop -/
def ocmStep (M : List (Nat × α) → Nat → Nat → Option α) (size : Nat) (s : Ocm α) : Option (Ocm α) :=
  let i := s.finished + 1
  if s.tentative < i then
    -- first case
    let rows := (List.range (s.finished + 1)).drop s.base       -- base..finished+1
    let tentative := min (s.finished + rows.length) (size - 1)
    let cols := (List.range (tentative + 1)).drop (s.finished + 1)   -- finished+1..tentative+1
    match smawkInner (ocmM M size s) rows cols (List.replicate (tentative + 1) 0) with
    | none => none
    | some minima =>
      match ocmStore (ocmM M size s) minima cols s.result with
      | none => none
      | some res => some { result := res, finished := i, base := s.base, tentative := tentative }
  else
    match ocmM M size s (i - 1) i, s.result[i]? with
    | some diag, some ri =>
      if diag < ri.2 then
        -- second case
        some { result := s.result.set i (i - 1, diag), finished := i, base := i - 1, tentative := i }
      else
        match ocmM M size s (i - 1) s.tentative, s.result[s.tentative]? with
        | some v, some rt =>
          if CostNum.le rt.2 v then
            -- third case
            some { s with finished := i }
          else
            -- fourth case
            some { s with finished := i, base := i - 1, tentative := i }
        | _, _ => none
    | _, _ => none

/-- the `while` loop; `none` also when the fuel runs out (an endless loop) -/
def ocmLoop (M : List (Nat × α) → Nat → Nat → Option α) (size : Nat) : Nat → Ocm α → Option (Ocm α)
  | fuel, s =>
    if s.finished < size - 1 then
      match fuel with
      | 0 => none
      | fuel + 1 =>
        match ocmStep M size s with
        | none => none
        | some s' => ocmLoop M size fuel s'
    else some s

/-- `smawk::online_column_minima(initial, size, matrix)`; `size = 0` underflows in `size - 1` -/
def onlineColumnMinima (M : List (Nat × α) → Nat → Nat → Option α) (initial : α) (size : Nat) :
    Option (List (Nat × α)) :=
  if size = 0 then none
  else (ocmLoop M size size ⟨[(0, initial)], 0, 0, 0⟩).map (·.result)

/-- do the entries at positions `pos, pos+1, …` each point to an earlier column? -/
def shapeFrom : List (Nat × α) → Nat → Bool
  | [], _ => true
  | e :: es, pos => (pos = 0 || decide (e.1 < pos)) && shapeFrom es (pos + 1)

/-- follow the rows back to column 0, counting the steps -/
def lnWalk (minima : List (Nat × α)) : Nat → Nat → Nat
  | 0, _ => 0
  | fuel + 1, i => if i = 0 then 0 else 1 + lnWalk minima fuel ((minima[i]?.map (·.1)).getD 0)

/-- `LineNumbers::get(i, minima)`. The cache is filled for every position up to `i` by
    `1 + get(minima[pos].0)`; that recursion returns only if `minima[pos]` exists and points to
    an earlier column for every `pos` in `1..=i` (otherwise: index panic / unbounded recursion,
    `none`). Entries at or below the `finished` mark of `online_column_minima` never change
    (`OcmStep.prefix_stable`, Lemmas/SmawkLoop.lean: for any matrix), so the cached value is the
    number of steps back to column 0.
    `get(0, _)` answers from the initial cache `[0]` without looking at `minima`. -/
def lnGet (minima : List (Nat × α)) (i : Nat) : Option Nat :=
  if i = 0 then some 0
  else if i < minima.length && shapeFrom (minima.take (i + 1)) 0 then some (lnWalk minima i i)
  else none

/-- the closure passed to `online_column_minima` (optimal_fit.rs:319-368) -/
def costClosure (pen : Penalties) (lws : List α) (frs : List (Frag α)) (W : List α)
    (minima : List (Nat × α)) (i j : Nat) : Option α :=
  match lnGet minima i, W[i]?, W[j]?, (if j = 0 then none else frs[j - 1]?), minima[i]? with
  | some ln, some Wi, some Wj, some last, some mi =>
    some (lineCost pen lws frs.length Wi Wj last mi.2 ln i j)
  | _, _, _, _, _ => none

/-- the back-tracking `loop` on the `(row, cost)` vector itself; indices are checked -/
def backtrackVec (minima : List (Nat × α)) : Nat → Nat → Option (List (Nat × Nat))
  | 0, _ => none
  | fuel + 1, pos =>
    match minima[pos]? with
    | none => none
    | some (prev, _) =>
      if pos < prev then none
      else if prev = 0 then some [(prev, pos)]
      else match backtrackVec minima fuel prev with
        | some l => some ((prev, pos) :: l)
        | none => none

/-- the `(row, cost)` vector the model's own `smawk` computes for a fragment list (what the hook
    records from the real run): the driver compares the costs bit for bit -/
def ownMinimaVec (pen : Penalties) (frs : List (Frag α)) (lws : List α) : Option (List (Nat × α)) :=
  onlineColumnMinima (costClosure pen lws frs (prefixWidths frs)) 0 (prefixWidths frs).length

/-- `wrap_optimal_fit`, self-contained (its own `smawk`). -/
def wrapOptimalFit {β : Type} (m : β → Frag α) (pen : Penalties) (frs : List β) (lws : List α) :
    OfResult β × List Nat :=
  let fr := frs.map m
  let n := frs.length
  let W := prefixWidths fr
  match onlineColumnMinima (costClosure pen lws fr W) 0 W.length with
  | none => (.panic, [])
  | some minima =>
    let rows := minima.map (·.1)
    if minima.any (fun e => CostNum.isInf e.2) then (.overflow, rows)
    else
      match lnGet minima n with                     -- `Vec::with_capacity(line_numbers.get(..))`
      | none => (.panic, rows)
      | some _ =>
        match backtrackVec minima (n + 1) n with
        | none => (.panic, rows)
        | some segs => (.ok (segs.reverse.map fun (a, b) => (frs.drop a).take (b - a)), rows)

end Smawk

end TW
