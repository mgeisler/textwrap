/-
  C13 — ANSI colour codes do not change where lines break: the lines of the coloured text, with
  the sequences removed, are the lines of the visible text. Coloured text is given as blocks —
  every visible character preceded by a (possibly empty) run of space-free escape sequences, plus
  a trailing run — with every non-empty run attached to a non-space character (`ValidB`,
  `Attached`). A relation between the coloured and the visible run is carried through every stage;
  here the stages are composed, for one paragraph, several paragraphs and `wrap`.
-/
import Lemmas.ColourLines
import Lemmas.ColourHyphen
import Props.C05
namespace TW.C13

-- the text-by-text statements, in `Lemmas/StripStages.lean` and `Lemmas/ColourWords.lean`:
-- @audit TW.C13.strip_append_normal
-- @audit TW.C13.dw_strip
-- @audit TW.C13.displayWidth_strip
-- @audit TW.C13.break_strip_commute
-- @audit TW.C13.unicode_strip_commute

section
variable {α : Type} [CostNum α]

/-- what the hyphen splitter needs in addition, so that every word inherits `NoTouch` from the
    text (`findWords_notouch`): no sequence touches a hyphen, and spaces are met in state `normal`
    (so the ASCII separator cuts there). The third clause, positive opportunities, is passed on to
    `findWords_notouch`, whose proof does not use it. -/
def HyphenOk (env : Env) (o : Opts) (bs : List Block) (tl : Text) : Prop :=
  o.splitter = .hyphen →
    NoTouch .normal false (colOf bs tl) ∧ MetNormal (fun c => c == SP) .normal (colOf bs tl) ∧
      ∀ x ∈ env.opps (visOf bs), 0 < x

section
variable {env : Env} {o : Opts} {bs : List Block} {tl : Text} (hsp : Builtin o.splitter)
  (hv : ValidB bs tl) (hatt : Attached none bs tl) (hinc : (env.opps (visOf bs)).Pairwise (· < ·))
  (hhy : HyphenOk env o bs tl)
include hsp hv hatt hinc hhy

theorem pipeline_colour {sw : Nat} {frs : List Word} (h : pipeline env o (colOf bs tl) sw = some frs) :
    ∃ frs', pipeline env o (visOf bs) sw = some frs' ∧ AllRel (WR env.cw) frs frs' := by
  obtain ⟨fw, sws, hfw, hsws, rfl⟩ := pipeline_stages h
  obtain ⟨fw', hfw', hrel⟩ := findWords_colour hv hatt hinc hfw
  have hnt : o.splitter = .hyphen → ∀ w ∈ fw, NoTouch .normal false w.word := fun hspl => by
    obtain ⟨n1, n2, n3⟩ := hhy hspl
    have hs1 := (strip_colOf hv).symm
    exact findWords_notouch env o.sep (colOf bs tl) n2 n1 (hs1 ▸ hinc) (hs1 ▸ n3) fw hfw
  obtain ⟨sws', hsws', hrel2⟩ := splitWords_colour hsp hrel hnt hsws
  have hbw := breakWords_colour sw hrel2
  refine ⟨_, pipeline_of_stages sw hfw' hsws', ?_⟩
  cases o.breakWords
  · exact hrel2
  · cases o.initialIndent.isEmpty
    · -- the empty word in front of a non-empty initial indent
      exact AllRel.cons (TR.nil.word env.cw) hbw
    · exact hbw

/-- `LineRel` also says that every coloured slice ends in skipper state `normal`, which the
    rendered form needs -/
theorem slow_path_lineRel {mo : MinimaOracle α} (hmo : MoShape mo) {nPrev : Nat} {dsC : List LineD}
    (h : wrapSingleLineSlow env mo o (colOf bs tl) nPrev = some dsC) :
    ∃ dsV, wrapSingleLineSlow env mo o (visOf bs) nPrev = some dsV ∧ AllRel LineRel dsC dsV := by
  have hr := builtin_inRange (isAlnum := env.isAlnum) hsp
  obtain ⟨frs, G, hp, hg, -, -, rfl⟩ := wrapSingleLineSlow_inv hmo hr h
  obtain ⟨frs', hp', hrel⟩ := pipeline_colour hsp hv hatt hinc hhy hp
  obtain ⟨G', hg', hG⟩ := wrapAlg_rel (fun a b hab => hab.frag) mo o.alg frs frs' _ hrel G hg
  exact ⟨_, wrapSingleLineSlow_of_groups hp' (pipeline_contig env o hr _ _ frs' hp').1 hg'
      (wrapAlg_partition hmo hg').1,
    specLines_rel o hG 0 0 nPrev⟩

end

/-- C13, one paragraph on the general path: the lines of the coloured paragraph — indent, slice,
    inserted penalty — are those of the visible paragraph, with the sequences removed from the
    slices. Both separators, both algorithms (the minima routine is asked the same question in
    both runs), `break_words` on or off, every width and indents, both built-in splitters (hyphen
    splitter: `HyphenOk`). The theorems below have the same scope. -/
-- @audit TW.C13.slow_path_colour
theorem slow_path_colour (env : Env) (mo : MinimaOracle α) (hmo : MoShape mo) (o : Opts)
    (hsp : Builtin o.splitter)
    (bs : List Block) (tl : Text) (hv : ValidB bs tl) (hatt : Attached none bs tl)
    (hinc : (env.opps (visOf bs)).Pairwise (· < ·)) (hhy : HyphenOk env o bs tl) (nPrev : Nat) (dsC : List LineD)
    (h : wrapSingleLineSlow env mo o (colOf bs tl) nPrev = some dsC) :
    ∃ dsV, wrapSingleLineSlow env mo o (visOf bs) nPrev = some dsV ∧
      dsC.map (fun d => (d.indent, stripAnsi d.slice, d.pen)) = dsV.map LineD.parts := by
  obtain ⟨dsV, h1, h2⟩ := slow_path_lineRel hsp hv hatt hinc hhy hmo h
  exact ⟨dsV, h1, h2.map_eq _ _ fun _ _ _ hd => hd.parts⟩

theorem strip_render (d : LineD) (hind : ∀ c ∈ d.indent, c ≠ ESC) (hpen : ∀ c ∈ d.pen, c ≠ ESC)
    (hrun : Ansi.run .normal d.slice = .normal) :
    stripAnsi d.render = d.indent ++ stripAnsi d.slice ++ d.pen :=
  LineRel.render (d' := { d with slice := stripAnsi d.slice }) ⟨rfl, ⟨rfl, hrun⟩, rfl⟩ hind hpen

/-- `slow_path_colour` on the rendered lines, for indents without ESC -/
-- @audit TW.C13.slow_path_colour_rendered
theorem slow_path_colour_rendered (env : Env) (mo : MinimaOracle α) (hmo : MoShape mo) (o : Opts)
    (hsp : Builtin o.splitter)
    (hii : ∀ c ∈ o.initialIndent, c ≠ ESC) (hsi : ∀ c ∈ o.subsequentIndent, c ≠ ESC)
    (bs : List Block) (tl : Text) (hv : ValidB bs tl) (hatt : Attached none bs tl)
    (hinc : (env.opps (visOf bs)).Pairwise (· < ·)) (hhy : HyphenOk env o bs tl) (nPrev : Nat) (dsC : List LineD)
    (h : wrapSingleLineSlow env mo o (colOf bs tl) nPrev = some dsC) :
    ∃ dsV, wrapSingleLineSlow env mo o (visOf bs) nPrev = some dsV ∧
      dsC.map (fun d => stripAnsi d.render) = dsV.map LineD.render := by
  obtain ⟨dsV, h1, h2⟩ := slow_path_lineRel hsp hv hatt hinc hhy hmo h
  refine ⟨dsV, h1, h2.map_eq _ _ fun d hd _ hdd => ?_⟩
  obtain ⟨hind, hpen⟩ := wrapSingleLineSlow_indent_pen hmo (builtin_inRange hsp) h
    (fun _ hp => pipeline_noPen hsp hp) d hd
  exact hdd.render (hind.elim (· ▸ hii) (· ▸ hsi)) (by simp [hpen])

/-- `wrap` with every paragraph on the general path (no byte-length shortcut): `C05.wrapNoShortcut`
    for any number type -/
def wrapGeneral (env : Env) (mo : MinimaOracle α) (o : Opts) (text : Text) : Option (List Text) :=
  wrapR (blen o.lineEnding.str) (wrapSingleLineSlow env mo o) (splitEnding o.lineEnding text) 0 0

/-- a coloured paragraph: blocks and trailing run -/
abbrev CPara := List Block × Text

/-- C13 for several paragraphs on the general path (`wrap_colour` and its corollaries are about
    `wrap` itself) -/
-- @audit TW.C13.wrapGeneral_colour
theorem wrapGeneral_colour (env : Env) (mo : MinimaOracle α) (hmo : MoShape mo) (o : Opts)
    (hsp : Builtin o.splitter)
    (hii : ∀ c ∈ o.initialIndent, c ≠ ESC) (hsi : ∀ c ∈ o.subsequentIndent, c ≠ ESC)
    (paras : List CPara) (hne : paras ≠ [])
    (hv : ∀ p ∈ paras, ValidB p.1 p.2 ∧ Attached none p.1 p.2 ∧ LF ∉ colOf p.1 p.2 ∧ LF ∉ visOf p.1 ∧
      (env.opps (visOf p.1)).Pairwise (· < ·) ∧ HyphenOk env o p.1 p.2)
    (ls : List Text)
    (h : wrapGeneral env mo o (joinWith o.lineEnding.str (paras.map fun p => colOf p.1 p.2)) = some ls) :
    wrapGeneral env mo o (joinWith o.lineEnding.str (paras.map fun p => visOf p.1)) = some (ls.map stripAnsi) := by
  unfold wrapGeneral at h ⊢
  rw [splitEnding_joinWith_map _ paras hne _ fun p hp => (hv p hp).2.2.1] at h
  rw [splitEnding_joinWith_map _ paras hne _ fun p hp => (hv p hp).2.2.2.1]
  refine wrapR_sim stripAnsi (fun p hp n dsC hs => ?_) h
  obtain ⟨v1, v2, -, -, v5, v6⟩ := hv p hp
  exact slow_path_colour_rendered env mo hmo o hsp hii hsi p.1 p.2 v1 v2 v5 v6 n dsC hs

end

/-- C13 for `wrap` itself, every algorithm, both separators: the byte-length shortcut is
    unobservable on the coloured and on the visible text (C05). Assumed of the external routines:
    the shape clause of `smawk`'s contract on every call (`MoShape`), strictly increasing
    opportunities for every paragraph (in `hv`), and for the paragraphs shorter than the width
    `C05.ShortcutContracts` (validated by the harness on every call). The corollaries below
    discharge these one by one. -/
-- @audit TW.C13.wrap_colour
theorem wrap_colour (env : Env) (hcw : ∀ c, env.cw c ≤ c.utf8Size)
    (mo : MinimaOracle Int) (hmo : MoShape mo) (o : Opts) (hsp : Builtin o.splitter)
    (hii : ∀ c ∈ o.initialIndent, c ≠ ESC) (hsi : ∀ c ∈ o.subsequentIndent, c ≠ ESC)
    (paras : List CPara) (hne : paras ≠ [])
    (hv : ∀ p ∈ paras, ValidB p.1 p.2 ∧ Attached none p.1 p.2 ∧ LF ∉ colOf p.1 p.2 ∧ LF ∉ visOf p.1 ∧
      (env.opps (visOf p.1)).Pairwise (· < ·) ∧ HyphenOk env o p.1 p.2)
    (hcc : ∀ p ∈ paras, blen (colOf p.1 p.2) < o.width → C05.ShortcutContracts env mo o (colOf p.1 p.2))
    (hcv : ∀ p ∈ paras, blen (visOf p.1) < o.width → C05.ShortcutContracts env mo o (visOf p.1))
    (ls : List Text)
    (h : wrap env mo o (joinWith o.lineEnding.str (paras.map fun p => colOf p.1 p.2)) = some ls) :
    wrap env mo o (joinWith o.lineEnding.str (paras.map fun p => visOf p.1)) = some (ls.map stripAnsi) := by
  rw [C05.wrap_shortcut_unobservable env hcw mo o hsp _ (by
    rw [splitEnding_joinWith_map _ paras hne _ fun p hp => (hv p hp).2.2.1]; exact List.forall_mem_map.mpr hcc)] at h
  rw [C05.wrap_shortcut_unobservable env hcw mo o hsp _ (by
    rw [splitEnding_joinWith_map _ paras hne _ fun p hp => (hv p hp).2.2.2.1]; exact List.forall_mem_map.mpr hcv)]
  -- `C05.wrapNoShortcut` unfolds to `wrapGeneral` at `Int`
  exact wrapGeneral_colour env mo hmo o hsp hii hsi paras hne hv ls h

/-- first-fit, ASCII separator: `C05.ShortcutContracts` holds outright. What is assumed of `mo`
    (`MoShape`) and of `env.opps` (strict increase in `hv`, positivity in `HyphenOk`) is kept from
    `wrap_colour`; this configuration calls neither routine. -/
-- @audit TW.C13.wrap_colour_firstfit_ascii
theorem wrap_colour_firstfit_ascii (env : Env) (hcw : ∀ c, env.cw c ≤ c.utf8Size)
    (mo : MinimaOracle Int) (hmo : MoShape mo) (o : Opts)
    (hsp : Builtin o.splitter) (halg : o.alg = .firstFit) (hsep : o.sep = .ascii)
    (hii : ∀ c ∈ o.initialIndent, c ≠ ESC) (hsi : ∀ c ∈ o.subsequentIndent, c ≠ ESC)
    (paras : List CPara) (hne : paras ≠ [])
    (hv : ∀ p ∈ paras, ValidB p.1 p.2 ∧ Attached none p.1 p.2 ∧ LF ∉ colOf p.1 p.2 ∧ LF ∉ visOf p.1 ∧
      (env.opps (visOf p.1)).Pairwise (· < ·) ∧ HyphenOk env o p.1 p.2)
    (ls : List Text)
    (h : wrap env mo o (joinWith o.lineEnding.str (paras.map fun p => colOf p.1 p.2)) = some ls) :
    wrap env mo o (joinWith o.lineEnding.str (paras.map fun p => visOf p.1)) = some (ls.map stripAnsi) :=
  wrap_colour env hcw mo hmo o hsp hii hsi paras hne hv
    (fun _ _ _ => C05.shortcutContracts_ascii_firstfit hsep halg)
    (fun _ _ _ => C05.shortcutContracts_ascii_firstfit hsep halg) ls h

/-- both separators, with the model's own `smawk` (`ownMinima`, proved to return column minima of
    textwrap's cost matrix): the `smawk` clauses of `wrap_colour` are theorems. Left of the external
    contracts are the `unicode_linebreak` clauses: LB7 + char boundaries (`hu`, asked of every text;
    used for the paragraphs shorter than the width) and the strict increase in `hv`. -/
-- @audit TW.C13.wrap_colour_own
theorem wrap_colour_own (env : Env) (hcw : ∀ c, env.cw c ≤ c.utf8Size)
    (o : Opts) (hsp : Builtin o.splitter) (pen0 : Penalties)
    (halg : o.alg = .firstFit ∨ (o.alg = .optimalFit pen0 ∧ 0 < pen0.nline))
    (hii : ∀ c ∈ o.initialIndent, c ≠ ESC) (hsi : ∀ c ∈ o.subsequentIndent, c ≠ ESC)
    (paras : List CPara) (hne : paras ≠ [])
    (hv : ∀ p ∈ paras, ValidB p.1 p.2 ∧ Attached none p.1 p.2 ∧ LF ∉ colOf p.1 p.2 ∧ LF ∉ visOf p.1 ∧
      (env.opps (visOf p.1)).Pairwise (· < ·) ∧ HyphenOk env o p.1 p.2)
    (hu : ∀ t : Text, o.sep = .unicode →
      OppsNoSpace (stripAnsi t) (env.opps (stripAnsi t)) ∧
      ∀ o' ∈ env.opps (stripAnsi t), o' < blen (stripAnsi t) → ∃ l r, stripAnsi t = l ++ r ∧ blen l = o')
    (ls : List Text)
    (h : wrap env (ownMinima (α := Int) pen0) o (joinWith o.lineEnding.str (paras.map fun p => colOf p.1 p.2)) = some ls) :
    wrap env (ownMinima (α := Int) pen0) o (joinWith o.lineEnding.str (paras.map fun p => visOf p.1)) =
      some (ls.map stripAnsi) :=
  wrap_colour env hcw _ (ownMinima_rowsShape pen0) o hsp hii hsi paras hne hv
    (fun _ _ _ => C05.shortcutContracts_own hsp halg (hu _))
    (fun _ _ _ => C05.shortcutContracts_own hsp halg (hu _))
    ls h

/-- ASCII separator, first-fit or optimal-fit (any penalties with `nline_penalty > 0`), no `smawk`
    contract: the `unicode_linebreak` clause `hu` of `wrap_colour_own` is void. What `hv` asks of
    `env.opps` is kept from `wrap_colour`; the ASCII separator does not consult it. -/
-- @audit TW.C13.wrap_colour_own_ascii
theorem wrap_colour_own_ascii (env : Env) (hcw : ∀ c, env.cw c ≤ c.utf8Size)
    (o : Opts) (hsp : Builtin o.splitter) (hsep : o.sep = .ascii) (pen0 : Penalties)
    (halg : o.alg = .firstFit ∨ (o.alg = .optimalFit pen0 ∧ 0 < pen0.nline))
    (hii : ∀ c ∈ o.initialIndent, c ≠ ESC) (hsi : ∀ c ∈ o.subsequentIndent, c ≠ ESC)
    (paras : List CPara) (hne : paras ≠ [])
    (hv : ∀ p ∈ paras, ValidB p.1 p.2 ∧ Attached none p.1 p.2 ∧ LF ∉ colOf p.1 p.2 ∧ LF ∉ visOf p.1 ∧
      (env.opps (visOf p.1)).Pairwise (· < ·) ∧ HyphenOk env o p.1 p.2)
    (ls : List Text)
    (h : wrap env (ownMinima (α := Int) pen0) o (joinWith o.lineEnding.str (paras.map fun p => colOf p.1 p.2)) = some ls) :
    wrap env (ownMinima (α := Int) pen0) o (joinWith o.lineEnding.str (paras.map fun p => visOf p.1)) =
      some (ls.map stripAnsi) :=
  wrap_colour_own env hcw o hsp pen0 halg hii hsi paras hne hv
    (fun _ hu => nomatch hsep.symm.trans hu) ls h

/-- both separators, both algorithms, no contract of an external crate: `smawk`'s algorithm and
    `unicode_linebreak`'s scan (on the compiled tables) are inside the model; for the Unicode
    separator the visible text must be free of hard-line-break characters (`HardFree`, where LB7 is
    a theorem). `HyphenOk`'s clause on the opportunities speaks of the model's own scan. -/
-- @audit TW.C13.wrap_colour_ownlb
theorem wrap_colour_ownlb (env : Env) (henv : env.opps = ownOpps lbTables) (hcw : ∀ c, env.cw c ≤ c.utf8Size)
    (o : Opts) (hsp : Builtin o.splitter) (pen0 : Penalties)
    (halg : o.alg = .firstFit ∨ (o.alg = .optimalFit pen0 ∧ 0 < pen0.nline))
    (hii : ∀ c ∈ o.initialIndent, c ≠ ESC) (hsi : ∀ c ∈ o.subsequentIndent, c ≠ ESC)
    (paras : List CPara) (hne : paras ≠ [])
    (hv : ∀ p ∈ paras, ValidB p.1 p.2 ∧ Attached none p.1 p.2 ∧ LF ∉ colOf p.1 p.2 ∧ LF ∉ visOf p.1 ∧
      HyphenOk env o p.1 p.2 ∧ (o.sep = .unicode → HardFree (visOf p.1)))
    (ls : List Text)
    (h : wrap env (ownMinima (α := Int) pen0) o (joinWith o.lineEnding.str (paras.map fun p => colOf p.1 p.2)) = some ls) :
    wrap env (ownMinima (α := Int) pen0) o (joinWith o.lineEnding.str (paras.map fun p => visOf p.1)) =
      some (ls.map stripAnsi) := by
  -- the contracts hold of a text whose stripped text is the visible paragraph
  have hsc : ∀ p ∈ paras, ∀ t, stripAnsi t = visOf p.1 → C05.ShortcutContracts env (ownMinima pen0) o t :=
    fun p hp t ht => C05.shortcutContracts_own hsp halg fun hs =>
      C05.own_lb_contracts henv (ht ▸ (hv p hp).2.2.2.2.2 hs)
  refine wrap_colour env hcw _ (ownMinima_rowsShape pen0) o hsp hii hsi paras hne
    (fun p hp => ?_) (fun p hp _ => hsc p hp _ (strip_colOf (hv p hp).1))
    (fun p hp _ => hsc p hp _ (strip_visOf (hv p hp).1.noEsc)) ls h
  obtain ⟨h1, h2, h3, h4, h5, _⟩ := hv p hp
  exact ⟨h1, h2, h3, h4, by rw [henv]; exact ownOpps_pairwise _ _, h5⟩

/-! `ValidB` and `Attached` are satisfiable: a coloured sentence -/
example :
    let bs : List Block := [("\x1b[1;31m".toList, 'a'), ([], 'b'), ("\x1b[0m".toList, ' '), ([], 'c')]
    ValidB bs "\x1b[m".toList ∧ Attached none bs "\x1b[m".toList ∧
      colOf bs "\x1b[m".toList = "\x1b[1;31mab\x1b[0m c\x1b[m".toList ∧ visOf bs = "ab c".toList := by
  intro bs
  exact ⟨(validBB_iff _ _).mp (by decide +kernel), (attachedB_iff _ _ _).mp (by decide +kernel),
    by decide +kernel, by decide +kernel⟩

end TW.C13
