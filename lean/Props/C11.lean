/-
  C11 — word finding is lossless and breaks exactly at the specified opportunities.
-/
import Lemmas.LinebreakTable
namespace TW.C11

/-- the text a word stands for -/
def Word.text (w : Word) : Text := w.word ++ w.ws

theorem from_text (cw : Char → Nat) (ps : List Text) :
    ((ps.map (Word.from cw)).map Word.text) = ps := map_from_text cw ps

/-- properties every `Word::from` result has -/
def WordOk (cw : Char → Nat) (w : Word) : Prop :=
  (∀ c ∈ w.ws, c = SP) ∧ w.word.getLast? ≠ some SP ∧ w.width = displayWidth cw w.word ∧ w.pen = []

theorem from_ok (cw : Char → Nat) (t : Text) : WordOk cw (Word.from cw t) :=
  ⟨trimEndSp_rest_spaces t, trimEndSp_no_trailing t, rfl, rfl⟩

/-! ### ASCII separator -/

/-- concatenating word and whitespace of the words found reproduces the line -/
-- @audit TW.C11.ascii_lossless
theorem ascii_lossless (cw : Char → Nat) (line : Text) :
    ((findWordsAscii cw line).map Word.text).flatten = line := by
  unfold findWordsAscii
  rw [from_text, asciiGo_flatten]; simp

/-- whitespace parts are spaces only, words do not end in a space, the cached width is the
    display width, no penalty is set -/
-- @audit TW.C11.ascii_words_ok
theorem ascii_words_ok (cw : Char → Nat) (line : Text) : ∀ w ∈ findWordsAscii cw line, WordOk cw w := by
  intro w hw
  obtain ⟨t, _, rfl⟩ := List.mem_map.mp hw
  exact from_ok cw t

/-- the boundaries are exactly the positions where a space is followed by a non-space: two
    consecutive words meet at such a position, and inside a word's text there is none -/
-- @audit TW.C11.ascii_boundaries
theorem ascii_boundaries (cw : Char → Nat) (line : Text) :
    AsciiCuts ((findWordsAscii cw line).map Word.text) := by
  unfold findWordsAscii
  rw [from_text]
  exact asciiGo_cuts0 line

/-- no empty word texts -/
-- @audit TW.C11.ascii_nonempty
theorem ascii_nonempty (cw : Char → Nat) (line : Text) :
    ∀ t ∈ (findWordsAscii cw line).map Word.text, t ≠ [] := by
  unfold findWordsAscii
  rw [from_text]
  exact asciiGo_ne_nil [] false line (by simp)

/-! ### Unicode separator -/

/-- the pieces of the Unicode separator, given the opportunities actually used -/
def uniPieces (os : List Nat) (line : Text) : List Text := uniGo .normal 0 [] os line

theorem unicode_eq (env : Env) (line : Text) (ws : List Word) (h : findWordsUnicode env line = some ws) :
    ∃ os, usedOpps (stripAnsi line) (env.opps (stripAnsi line)) = some os ∧
      ws = (uniPieces os line).map (Word.from env.cw) :=
  findWordsUnicode_some h

-- @audit TW.C11.unicode_lossless
theorem unicode_lossless (env : Env) (line : Text) (ws : List Word)
    (h : findWordsUnicode env line = some ws) : (ws.map Word.text).flatten = line := by
  obtain ⟨os, _, rfl⟩ := unicode_eq env line ws h
  rw [from_text]
  simp [uniPieces, uniGo_flatten]

-- @audit TW.C11.unicode_words_ok
theorem unicode_words_ok (env : Env) (line : Text) (ws : List Word)
    (h : findWordsUnicode env line = some ws) : ∀ w ∈ ws, WordOk env.cw w := by
  obtain ⟨os, _, rfl⟩ := unicode_eq env line ws h
  intro w hw
  obtain ⟨t, _, rfl⟩ := List.mem_map.mp hw
  exact from_ok _ t

/-- the opportunities used: those before the end of the stripped text that do not directly
    follow a hyphen-minus or a soft hyphen (`none` only if an opportunity is not a char boundary
    of the stripped text — the slice would panic) -/
-- @audit TW.C11.usedOpps_spec
theorem usedOpps_spec (stripped : Text) (opps os : List Nat) (h : usedOpps stripped opps = some os) :
    os = (opps.filter (· < blen stripped)).filter (fun o => keepOpp stripped o = some true) ∧
    ∀ o ∈ opps, o < blen stripped → (keepOpp stripped o).isSome := by
  obtain ⟨h1, h2⟩ := filterOpps_spec stripped _ os h
  exact ⟨h1, fun o ho hlt => h2 o (List.mem_filter.mpr ⟨ho, by simpa using hlt⟩)⟩

/-- `keepOpp` spelled out: the char before offset `o` is neither `-` nor SHY -/
-- @audit TW.C11.keepOpp_spec
theorem keepOpp_spec (stripped l r : Text) (h : splitBytes? stripped (blen l) = some (l, r)) :
    keepOpp stripped (blen l) = some (l.getLast? != some HY && l.getLast? != some SHY) := by
  obtain ⟨rfl, _⟩ := splitBytes?_some h
  exact keepOpp_append l r

/-- Soundness of the boundaries: every boundary between two consecutive words lies at a
    position of the line that the escape skipper reaches in state `normal` (never inside an
    escape sequence), and the `k`-th boundary is the `k`-th used opportunity: the stripped text
    before it has exactly that byte length. -/
-- @audit TW.C11.unicode_boundaries_sound
theorem unicode_boundaries_sound (os : List Nat) (line : Text) (pre : List Text) (p : Text) (post : List Text)
    (h : uniPieces os line = pre ++ p :: post) (hpre : pre ≠ []) :
    Ansi.run .normal pre.flatten = .normal ∧
      os[pre.length - 1]? = some (blen (stripAnsi pre.flatten)) :=
  uniGo_cuts_sound0 os line pre p post h hpre

/-- Completeness of the boundaries: if the used opportunities are strictly increasing char
    boundaries of the stripped line before its end (what `unicode_linebreak::linebreaks`
    returns, validated on every harness call), each of them produces a boundary: there are
    exactly `|os| + 1` words. Together with soundness: the boundaries are exactly the used
    opportunities, mapped back to normal-state positions of the original line. -/
-- @audit TW.C11.unicode_boundaries_complete
theorem unicode_boundaries_complete (os : List Nat) (line : Text) (hline : line ≠ [])
    (hinc : os.Pairwise (· < ·))
    (hb : ∀ o ∈ os, ∃ p d q, stripAnsi line = p ++ d :: q ∧ blen p = o) :
    (uniPieces os line).length = os.length + 1 := by
  apply uniGo_cuts_complete _ _ _ _ _ hinc _ (Or.inr hline)
  intro o ho
  obtain ⟨p, d, q, h1, rfl⟩ := hb o ho
  exact ⟨p, d, q, h1, Nat.zero_add _⟩

/-- No used opportunity lies strictly inside a word: the stripped text of a word spans from
    one used opportunity (or the start) to the next (or the end), so a word of the Unicode
    separator contains no break opportunity of that separator — the "unbreakable fragment" of
    C02's exception clause -/
-- @audit TW.C11.unicode_no_inner_opportunity
theorem unicode_no_inner_opportunity (os : List Nat) (line : Text) (hline : line ≠ [])
    (hinc : os.Pairwise (· < ·))
    (hb : ∀ o ∈ os, ∃ p d q, stripAnsi line = p ++ d :: q ∧ blen p = o)
    (pre : List Text) (p : Text) (post : List Text) (h : uniPieces os line = pre ++ p :: post) :
    ∀ o ∈ os, o ≤ blen (stripAnsi pre.flatten) ∨ blen (stripAnsi (pre.flatten ++ p)) ≤ o := by
  intro o ho
  obtain ⟨j, hj, rfl⟩ := List.getElem_of_mem ho
  by_cases hjp : j < pre.length
  · left
    obtain ⟨hi, e⟩ := List.getElem?_eq_some_iff.mp
      (unicode_boundaries_sound os line pre p post h (List.ne_nil_of_length_pos (Nat.zero_lt_of_lt hjp))).2
    rw [← e]
    exact getElem_le_of_sorted hinc (Nat.le_sub_one_of_lt hjp) hi
  · right
    cases post with
    | nil =>
      -- `p` is the last word, and all `|os|` boundaries lie before it
      have hlen := unicode_boundaries_complete os line hline hinc hb
      rw [h] at hlen
      simp at hlen
      omega
    | cons q post' =>
      have := (unicode_boundaries_sound os line (pre ++ [p]) q post' (by simp [h]) (by simp)).2
      simp only [List.length_append, List.length_singleton, Nat.add_sub_cancel, List.flatten_append,
        List.flatten_cons, List.flatten_nil, List.append_nil] at this
      obtain ⟨hi, e⟩ := List.getElem?_eq_some_iff.mp this
      rw [← e]
      exact getElem_le_of_sorted hinc (Nat.le_of_not_lt hjp) hj

/-- Placement of the boundaries ("first entry"): with strictly increasing positive
    opportunities, every boundary sits directly after a visible character of the line: escape
    sequences standing between that character and the next visible one belong to the following
    word, and no boundary falls inside or directly behind a sequence. Together with soundness
    (the stripped text before the `k`-th boundary has the byte length of the `k`-th used
    opportunity) this fixes the boundary's position in the original line uniquely. -/
-- @audit TW.C11.unicode_boundary_first_entry
theorem unicode_boundary_first_entry (os : List Nat) (line : Text) (hinc : os.Pairwise (· < ·))
    (hpos : ∀ o ∈ os, 0 < o) (pre : List Text) (p : Text) (post : List Text)
    (h : uniPieces os line = pre ++ p :: post) (hpre : pre ≠ []) :
    ∃ t d, pre.flatten = t ++ [d] ∧ ((Ansi.run .normal t).step d).2 = true :=
  uniGo_first_entry0 os line hinc hpos pre p post h hpre

/-- the position is unique: two prefixes of the line that end in a visible character and have
    the same stripped length are equal -/
-- @audit TW.C11.first_entry_unique
theorem first_entry_unique (line a b ra rb : Text) (ha : line = a ++ ra) (hb : line = b ++ rb)
    (hva : ∃ t d, a = t ++ [d] ∧ ((Ansi.run .normal t).step d).2 = true)
    (hvb : ∃ t d, b = t ++ [d] ∧ ((Ansi.run .normal t).step d).2 = true)
    (hlen : blen (stripAnsi a) = blen (stripAnsi b)) : a = b :=
  LastVis.unique ⟨ra, ha.symm⟩ ⟨rb, hb.symm⟩ hva hvb hlen

/-! ### the opportunities themselves: `unicode_linebreak::linebreaks` inside the model

The theorems above, and those of C01/C04/C05/C13/C14 about the Unicode separator, take clauses of
the crate's contract as hypotheses on `env.opps`. With `env.opps = ownOpps T`
(`TextwrapModel/Linebreak.lean`, the crate's scan transcribed) they are theorems: the audited ones
below, from `Lemmas/Linebreak.lean` (any tables) and `Lemmas/LinebreakTable.lean` (the tables the
crate was compiled with). Which offsets UAX #14 asks for is not stated anywhere in textwrap's
properties; that the scan modelled here is the one the code runs is checked per case by the driver
and by `lbScan_pinned` (hash of the function's source). -/

-- @audit TW.ownOpps_contract
-- @audit TW.ownOpps_noSpace
-- @audit TW.ownOpps_space_after_hard
-- @audit TW.lbTables_lb7
-- @audit TW.lbScan_pinned
-- restart invariance: a word of the separator, analysed alone, keeps its inner opportunities
-- @audit TW.ownOpps_restart
-- @audit TW.lbTables_restart
-- @audit TW.ownOpps_part

/-- the Unicode separator never panics on the model's own opportunities (any tables) -/
-- @audit TW.C11.findWordsUnicode_total_ownlb
theorem findWordsUnicode_total_ownlb (env : Env) (T : LbTables) (henv : env.opps = ownOpps T) (line : Text) :
    ∃ ws, findWordsUnicode env line = some ws :=
  _root_.TW.findWordsUnicode_total env line (boundary_own env T henv (stripAnsi line))

/-- the opportunities the Unicode separator actually uses, when the environment runs the model's
    own `linebreaks` (any tables satisfying LB2): strictly increasing, positive, each strictly
    inside the stripped text on a char boundary — the hypotheses of the boundary theorems -/
-- @audit TW.C11.usedOpps_own
theorem usedOpps_own (env : Env) (T : LbTables) (henv : env.opps = ownOpps T) (hT : NoBreakAtSot T)
    (line : Text) (os : List Nat)
    (h : usedOpps (stripAnsi line) (env.opps (stripAnsi line)) = some os) :
    os.Pairwise (· < ·) ∧ (∀ o ∈ os, 0 < o) ∧
      ∀ o ∈ os, ∃ p d q, stripAnsi line = p ++ d :: q ∧ blen p = o := by
  rw [henv] at h
  obtain ⟨hsub, hlt⟩ := usedOpps_sub h
  refine ⟨(ownOpps_pairwise T _).sublist hsub, fun o ho => ownOpps_pos T hT _ o (hsub.subset ho), fun o ho => ?_⟩
  obtain ⟨l, r, hs, hb⟩ := ownOpps_boundary T _ o (hsub.subset ho)
  cases r with
  | nil =>
    -- a boundary at the end of the text is not used
    have := hlt o ho
    rw [hs, List.append_nil] at this
    omega
  | cons d q => exact ⟨l, d, q, hs, hb⟩

/-- The Unicode separator with the opportunity routine inside the model: every clause of the
    property at once, no hypothesis about an external crate (the statement of
    `unicode_separator_ownlb`). For every non-empty line the
    separator returns words which concatenate to the line, are well-formed (`WordOk`: whitespace =
    trailing spaces, cached width = display width, no penalty), are one more than the used
    opportunities (those before the end whose preceding character is neither `-` nor SHY), and
    every boundary between two words is reached in skipper state `normal`, is the corresponding
    used opportunity of the stripped text, sits directly after a visible character, and no used
    opportunity lies strictly inside a word. The boundary clauses speak of the pieces
    `uniPieces os line`; that the words are their `Word.from` images is `unicode_eq`, not part of
    this statement. -/
def UnicodeSepSpec (env : Env) (T : LbTables) (line : Text) : Prop :=
    ∃ ws os, findWordsUnicode env line = some ws ∧
      usedOpps (stripAnsi line) (ownOpps T (stripAnsi line)) = some os ∧
      (ws.map Word.text).flatten = line ∧ (∀ w ∈ ws, WordOk env.cw w) ∧
      ws.length = os.length + 1 ∧
      ∀ pre p post, uniPieces os line = pre ++ p :: post →
        (∀ o ∈ os, o ≤ blen (stripAnsi pre.flatten) ∨ blen (stripAnsi (pre.flatten ++ p)) ≤ o) ∧
        (pre ≠ [] →
          Ansi.run .normal pre.flatten = .normal ∧
          os[pre.length - 1]? = some (blen (stripAnsi pre.flatten)) ∧
          ∃ t d, pre.flatten = t ++ [d] ∧ ((Ansi.run .normal t).step d).2 = true)

-- @audit TW.C11.unicode_separator_ownlb
theorem unicode_separator_ownlb (env : Env) (T : LbTables) (henv : env.opps = ownOpps T) (hT : NoBreakAtSot T)
    (line : Text) (hline : line ≠ []) : UnicodeSepSpec env T line := by
  unfold UnicodeSepSpec
  obtain ⟨ws, hws⟩ := findWordsUnicode_total_ownlb env T henv line
  obtain ⟨os, hos, hwsd⟩ := unicode_eq env line ws hws
  obtain ⟨hinc, hpos, hb⟩ := usedOpps_own env T henv hT line os hos
  refine ⟨ws, os, hws, by rw [← henv]; exact hos, unicode_lossless env line ws hws,
    unicode_words_ok env line ws hws, ?_, ?_⟩
  · rw [hwsd, List.length_map]
    exact unicode_boundaries_complete os line hline hinc hb
  · intro pre p post h
    refine ⟨unicode_no_inner_opportunity os line hline hinc hb pre p post h, fun hpre => ?_⟩
    obtain ⟨h1, h2⟩ := unicode_boundaries_sound os line pre p post h hpre
    exact ⟨h1, h2, unicode_boundary_first_entry os line hinc hpos pre p post h hpre⟩

/-- … for the tables the crate was compiled with (LB2 checked by the kernel on the table) -/
-- @audit TW.C11.unicode_separator_own
theorem unicode_separator_own (env : Env) (henv : env.opps = ownOpps lbTables) (line : Text) (hline : line ≠ []) :
    UnicodeSepSpec env lbTables line :=
  unicode_separator_ownlb env lbTables henv lbTables_noBreakAtSot line hline

/-! ### non-vacuity

The coloured example of the upstream test-suite; a line ending in `-` keeps its last real
opportunity (DESIGN §8.1, F3); `HardFree` is satisfiable. -/

example : uniPieces [4] ['f', 'o', 'o', ' ', ESC, '[', '1', 'm', 'b', 'a', 'r'] =
    [['f', 'o', 'o', ' '], [ESC, '[', '1', 'm', 'b', 'a', 'r']] := by decide +kernel
example : usedOpps "aaa bbb ccc-".toList [4, 8, 12] = some [4, 8] := by decide +kernel

example : HardFree ['a', 'b', ' ', 'c', '-', 'd', 'é', '字'] := by
  unfold HardFree
  decide +kernel

end TW.C11
