/-
  C04 — public functions are total: no panic, hang or overflow error on any input.

  In the model a Rust panic site (slice out of range or off a char boundary, `usize` underflow,
  `unwrap`, index) is an explicit `none`, except where the index is in range by the way it is
  obtained (`char_indices`, `find`, a guard directly before): "by construction" in the inventory at
  the end. A loop whose end is not structural runs on fuel, and running out is a `none` like a panic:
  back-tracking (`backtrackGo`, `backtrackVec`), `smawk`'s `while` (`ocmLoop`), `LineNumbers::get`
  (`lnWalk`). A function of the model that does not return `Option` has none of these.
-/
import Lemmas.WrapText
import Props.C17
import Props.C20
import TextwrapModel.Indent
import Lemmas.OptimalBound
namespace TW.C04

/-! ### entry points without any panic site (total by construction) -/

example : (Char → Nat) → Text → Nat := displayWidth                      -- display_width
example : (Char → Nat) → Text → List Word := findWordsAscii               -- AsciiSpace.find_words
example : (Char → Nat) → Nat → Word → List Word := breakApart             -- Word::break_apart
example : (Char → Nat) → Nat → List Word → List Word := breakWords        -- break_words
example : (Char → Bool) → Text → Text → Text := indent                    -- indent
example : (Char → Bool) → Text → Text := dedent                           -- dedent
example : Text → List (Text × Option LineEnding) := nonEmptyLines         -- NonEmptyLines
/-- `wrap_first_fit` for any number type whatsoever (NaN, ±∞ included) -/
example {α : Type} [Add α] [LT α] [Zero α] [DecidableRel (α := α) (· < ·)] :
    (Frag α → Frag α) → List (Frag α) → List α → List (List (Frag α)) := wrapFirstFit

/-- the Unicode separator panics only if an opportunity is not a char boundary of the stripped
    text; `unicode_linebreak` returns char boundaries (validated on every call) -/
-- @audit TW.C04.findWordsUnicode_total
theorem findWordsUnicode_total (env : Env) (line : Text)
    (hb : ∀ o ∈ env.opps (stripAnsi line), o < blen (stripAnsi line) →
      ∃ l r, stripAnsi line = l ++ r ∧ blen l = o) :
    ∃ ws, findWordsUnicode env line = some ws :=
  _root_.TW.findWordsUnicode_total env line hb

/-- `split_words` with the built-in splitters never panics -/
-- @audit TW.C04.splitWords_builtin_total
theorem splitWords_builtin_total (env : Env) (sp : Splitter) (hb : Builtin sp) (ws : List Word) :
    ∃ sw, splitWords env sp ws = some sw :=
  splitWords_total env sp hb ws

/-- over exact arithmetic optimal-fit returns a result on rows of the `smawk` shape: no panic
    (index, endless loop; `optimalFit_partition` has that for any number type) and no `OverflowError` -/
-- @audit TW.C04.optimalFit_no_panic
theorem optimalFit_no_panic {β : Type} (m : β → Frag Int) (pen : Penalties) (frs : List β) (lws : List Int)
    (rows : List Nat) (hs : RowsShape rows frs.length) :
    ∃ lines, wrapOptimalFitWith m pen frs lws rows = .ok lines := by
  have ⟨ls, h, _⟩ := optimalFit_partition_int m pen frs lws rows hs
  exact ⟨ls, h⟩

/-- `wrap_single_line` is total, the algorithm over `Int` (`wrapAlg_total`) -/
-- @audit TW.C04.wrapSingleLine_total
theorem wrapSingleLine_total (env : Env) (mo : MinimaOracle Int) (hmo : MoShape mo) (o : Opts)
    (hb : Builtin o.splitter)
    (hsep : o.sep = .ascii ∨ ∀ line : Text, ∀ o' ∈ env.opps (stripAnsi line), o' < blen (stripAnsi line) →
      ∃ l r, stripAnsi line = l ++ r ∧ blen l = o')
    (line : Text) (nPrev : Nat) : ∃ ds, wrapSingleLine env mo o line nPrev = some ds := by
  by_cases hc : blen line < o.width ∧ C05.indentOf o nPrev = []
  · exact ⟨_, wrapSingleLine_short env mo hc.1 hc.2⟩
  · obtain ⟨frs, hp⟩ := pipeline_total env o hb line (o.width - displayWidth env.cw o.subsequentIndent)
      (fun hu => (hsep.resolve_left (by simp [hu])) line)
    obtain ⟨G, hg⟩ := wrapAlg_total mo hmo o.alg frs (lineWidths env o nPrev)
    rw [wrapSingleLine_long env mo hc]
    exact ⟨_, wrapSingleLineSlow_of_groups hp
      (pipeline_contig_builtin hb hp).1 hg
      (wrapAlg_partition hmo hg).1⟩

/-- `wrap` and `fill` are total for every text, width, indents, break_words setting, both
    algorithms (given the `smawk` shape contract), the ASCII separator or the Unicode separator
    with char-boundary opportunities, and the built-in splitters -/
-- @audit TW.C04.wrap_total
theorem wrap_total (env : Env) (mo : MinimaOracle Int) (hmo : MoShape mo) (o : Opts) (hb : Builtin o.splitter)
    (hsep : o.sep = .ascii ∨ ∀ line : Text, ∀ o' ∈ env.opps (stripAnsi line), o' < blen (stripAnsi line) →
      ∃ l r, stripAnsi line = l ++ r ∧ blen l = o')
    (text : Text) : (∃ ls, wrap env mo o text = some ls) ∧ (∃ s, fill env mo o text = some s) := by
  obtain ⟨ds, hds⟩ : ∃ ds, wrapD env mo o text = some ds :=
    wrapParas_total (wrapSingleLine_total env mo hmo o hb hsep)
  have hwrap : wrap env mo o text = some (ds.map LineD.render) := wrap_eq_some.mpr ⟨ds, hds, rfl⟩
  exact ⟨⟨_, hwrap⟩, ⟨_, by rw [fill_eq, hwrap]; rfl⟩⟩

/-- `wrap_columns` for any column count ≥ 1 -/
-- @audit TW.C04.columns_total
theorem columns_total (env : Env) (mo : MinimaOracle Int) (hmo : MoShape mo) (o : Opts) (hb : Builtin o.splitter)
    (hsep : o.sep = .ascii ∨ ∀ line : Text, ∀ o' ∈ env.opps (stripAnsi line), o' < blen (stripAnsi line) →
      ∃ l r, stripAnsi line = l ++ r ∧ blen l = o')
    (text : Text) (columns : Nat) (hc : 1 ≤ columns) (left middle right : Text) :
    ∃ rows, wrapColumns env mo o text columns left middle right = some rows := by
  obtain ⟨⟨ls, hls⟩, _⟩ := wrap_total env mo hmo
    { o with width := TW.C20.columnWidth env.cw o.width columns left middle right } hb hsep text
  exact ⟨_, TW.C20.columns_rows env mo o text columns left middle right hc ls hls⟩

/-! ### without the `smawk` contract

`TextwrapModel/Smawk.lean` models `smawk::online_column_minima` and `smawk_inner`: every index,
both assertions of the `m!` macro and the `size - 1` underflow are `none`s. -/

-- `smawk_inner` never panics, whatever the matrix (no monotonicity, IEEE doubles with NaN)
-- @audit TW.smawkInner_spec
-- nor does `online_column_minima`; `size` entries, rows point back
-- @audit TW.onlineColumnMinima_spec

/-- `wrap_optimal_fit` with its own `smawk`: never a panic, for any number type -/
-- @audit TW.C04.optimalFit_own_no_panic
theorem optimalFit_own_no_panic {α : Type} [CostNum α] {β : Type} (m : β → Frag α) (pen : Penalties)
    (frs : List β) (lws : List α) : (wrapOptimalFit m pen frs lws).1 ≠ .panic := by
  rcases wrapOptimalFit_partition m pen frs lws with h | ⟨ls, h, _⟩
  · rw [h]; exact nofun
  · rw [h]; exact nofun

/-- the model's own minima satisfy the shape contract -/
-- @audit TW.C04.ownMinima_moShape
theorem ownMinima_moShape (pen : Penalties) : MoShape (ownMinima (α := Int) pen) :=
  fun frs lws => ownMinima_rowsShape pen frs lws

/-- `wrap` and `fill` are total with the model's own `smawk`. It enters through `ownMinima`, which
    turns a panic into `[]`, a vector of the right shape: that the algorithm itself never panics is
    `optimalFit_own_no_panic`, not this statement. `pen` is the oracle's parameter and need not be
    the penalties in `o.alg`; only the shape of the rows is used. -/
-- @audit TW.C04.wrap_total_own
theorem wrap_total_own (env : Env) (pen : Penalties) (o : Opts) (hb : Builtin o.splitter)
    (hsep : o.sep = .ascii ∨ ∀ line : Text, ∀ o' ∈ env.opps (stripAnsi line), o' < blen (stripAnsi line) →
      ∃ l r, stripAnsi line = l ++ r ∧ blen l = o')
    (text : Text) :
    (∃ ls, wrap env (ownMinima (α := Int) pen) o text = some ls) ∧
    (∃ s, fill env (ownMinima (α := Int) pen) o text = some s) :=
  wrap_total env _ (ownMinima_moShape pen) o hb hsep text

/-! ### no `OverflowError` for usize-valued inputs: the exact-arithmetic half

For any matrix whose entries are the row's value plus an increment in `[0, K]`, every value
`online_column_minima` stores lies in `[init, init + j·K]` (`onlineColumnMinima_bounded`); with all
widths and penalties in `[0, U]` the closure of `wrap_optimal_fit` is such a matrix with
`K = 2U + (2n+1)·U²` (`costClosure_bounded`). -/

-- @audit TW.onlineColumnMinima_bounded
-- @audit TW.optimalFit_costs_bounded

/-- `U = 2^64`: every cost the model's own `smawk` stores is an integer in
    `[0, j·(2^65 + (2n+1)·2^128)]` — for `n < 2^64` fragments below `2^260`, against an `f64`
    range of `≈ 2^1024`. What remains assumed for the real code: the `f64` computation of a value
    whose exact counterpart is that small stays finite (DESIGN §5.4). -/
-- @audit TW.C04.optimalFit_costs_usize
theorem optimalFit_costs_usize (pen : Penalties) (lws : List Int) (frs : List (Frag Int))
    (hf : ∀ f ∈ frs, 0 ≤ f.w ∧ f.w ≤ 2 ^ 64 ∧ 0 ≤ f.ws ∧ f.ws ≤ 2 ^ 64 ∧ 0 ≤ f.pen ∧ f.pen ≤ 2 ^ 64)
    (hl : ∀ lw ∈ lws, 0 ≤ lw ∧ lw ≤ 2 ^ 64)
    (hp : (pen.nline : Int) ≤ 2 ^ 64 ∧ (pen.overflow : Int) ≤ 2 ^ 64 ∧ (pen.shortPen : Int) ≤ 2 ^ 64 ∧
      (pen.hyphen : Int) ≤ 2 ^ 64) :
    ∃ res, onlineColumnMinima (costClosure pen lws frs (prefixWidths frs)) 0 (frs.length + 1) = some res ∧
      res.length = frs.length + 1 ∧
      ∀ j, j ≤ frs.length → 0 ≤ Dof res j ∧
        Dof res j ≤ (j : Int) * (2 * 2 ^ 64 + (2 * (frs.length : Int) + 1) * 2 ^ 64 * 2 ^ 64) :=
  optimalFit_costs_bounded pen lws frs (2 ^ 64) (by decide) hf hl hp

-- `fill_inplace` is total: proved with C17
-- @audit TW.C17.inplace_total

/-! ### panic-site inventory (Rust site ↦ why its `none` is unreachable)

* wrap.rs `&line[idx..idx + len]`, `sum - last_word.whitespace.len()` — `reassemble_eq_spec` (contiguity, C01)
* wrap_algorithms.rs `&fragments[start..idx]`, `&fragments[start..]` (first-fit) — by construction (`start` is an
  earlier `idx` of `enumerate`); model: the accumulator `cur` of `ffGo`
* wrap_algorithms.rs `.unwrap()` of `OverflowError` — `optimalFit_no_panic` (exact arithmetic; the
  `f64` finiteness for `usize`-valued input is an assumption, DESIGN §5.4)
* optimal_fit.rs `minima[pos]`, `&fragments[prev..pos]`, the back-tracking `loop` — `backtrackGo_spec` (shape contract)
* word_separators.rs `&line[start..idx]` (ASCII), `&stripped[..*idx]`, `&line[start..orig_idx]` (Unicode) —
  by construction (char_indices) / `findWordsUnicode_total`
* word_splitters.rs `word[..idx]`, `&word.word[prev..idx]` — `splitOne_total` (points on boundaries, non-decreasing)
* core.rs `&self.word[offset..idx]`, `&self.word[offset..]` — by construction (char_indices);
  `&word[trimmed.len()..]` in `Word::from` — by construction (`trimmed` is a prefix); model: `List.drop`
* fill.rs `wrapped_words.len() - 1`, `line_offset - 1`, `bytes[idx]`, `from_utf8(..).unwrap()` — `C17.inplace_total`
* columns.rs `assert!(columns > 0)` (documented), `column_width.saturating_sub(display_width(..))` — `columns_total`
* refill.rs `&line[..line.len() - without_prefix.len()]`, `&line[indent.len()..]` — C15 (see there);
  `&prefix[..idx]` — by construction (char_indices)
* line_ending.rs `as_bytes()[lf - 1]`, `&self.0[..(lf - 1)]`, `&self.0[(lf + 1)..]` — by construction (`lf` from
  `find('\n')`; `lf - 1` behind `lf == 0 ||` resp. after that arm's `continue`; `'\r'` and `'\n'` are one byte)
* indentation.rs `line.split_at(prefix.len())` — guarded by `starts_with(prefix)`; model: `List.drop`;
  `&line[..whitespace_idx]` — by construction (char_indices); `result.len() - 1` — behind `result.ends_with('\n')`
-/

/-! ### without the `unicode_linebreak` contract either

`TextwrapModel/Linebreak.lean` transcribes `unicode_linebreak::linebreaks`. For any tables the
offsets it reports are char boundaries, which is all the Unicode separator needs in order not to panic. -/

-- @audit TW.ownOpps_boundary
-- @audit TW.ownOpps_pairwise

/-- `wrap` and `fill` are total — both separators, both algorithms, built-in splitters — with no
    contract of an external crate left; the line-break scan for any pair table and class function -/
-- @audit TW.C04.wrap_total_own_all
theorem wrap_total_own_all (env : Env) (T : LbTables) (henv : env.opps = ownOpps T) (pen : Penalties)
    (o : Opts) (hb : Builtin o.splitter) (text : Text) :
    (∃ ls, wrap env (ownMinima (α := Int) pen) o text = some ls) ∧
    (∃ s, fill env (ownMinima (α := Int) pen) o text = some s) :=
  wrap_total_own env pen o hb (Or.inr fun line => boundary_own env T henv (stripAnsi line)) text

/-- … and so is `wrap_columns` -/
-- @audit TW.C04.columns_total_own_all
theorem columns_total_own_all (env : Env) (T : LbTables) (henv : env.opps = ownOpps T) (pen : Penalties)
    (o : Opts) (hb : Builtin o.splitter) (text : Text) (columns : Nat) (hc : 1 ≤ columns)
    (left middle right : Text) :
    ∃ rows, wrapColumns env (ownMinima (α := Int) pen) o text columns left middle right = some rows :=
  columns_total env _ (ownMinima_moShape pen) o hb
    (Or.inr fun line => boundary_own env T henv (stripAnsi line)) text columns hc left middle right

/-- the hypothesis is satisfiable: the environment the driver runs -/
example : ∃ env : Env, env.opps = ownOpps lbTables := ⟨⟨cwUnicode, isAlnumStd, isWsStd, ownOpps lbTables⟩, rfl⟩

end TW.C04
