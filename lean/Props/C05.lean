/-
  C05 — text that already fits is returned unchanged; the shortcut path is unobservable.
  One theorem does the work: if the cached widths of a paragraph's fragments fit the first line
  width, the general path returns the single line holding them all (`slow_one_line`), whatever
  the algorithm, given what that algorithm needs (`AlgOk`); so does `wrap_single_line`, whichever
  path it takes (`wrapSingleLine_one_line`). The fit follows from additivity (H-norm) or, when the
  shortcut fires, from `display width ≤ byte length`.
  Throughout: a built-in splitter (no inserted hyphens), either separator unless one is named,
  `break_words` on or off; `hsp` (`' '` is one column wide) and `hcw` (no character is wider than
  its UTF-8 length) are table obligations.
-/
import Lemmas.HNormPipeline
import Lemmas.OptimalOneLine
import Lemmas.OptimalOwn
import Lemmas.WrapAppend
import Lemmas.Ends
import Lemmas.LinebreakTable
namespace TW.C05

/-- what is assumed of the external column-minima routine on this paragraph: its answer for the
    paragraph's fragments conforms to the `smawk` contract (shape and minimality; validated at
    run time on the real `minima` vector) -/
def MoConforms (mo : MinimaOracle Int) (p : Penalties) (frs : List Word) (lws : List Nat) : Prop :=
  IsMinimaRows p (lws.map fun (n : Nat) => (n : Int)) (frs.map fragOf)
    (mo (frs.map fragOf) (lws.map fun (n : Nat) => (n : Int)))

/-- what keeping a fitting paragraph on one line needs of the algorithm: nothing of first-fit;
    of optimal-fit `nline_penalty > 0` and conforming minima -/
def AlgOk (mo : MinimaOracle Int) (alg : Alg) (frs : List Word) (lws : List Nat) : Prop :=
  ∀ p, alg = .optimalFit p → 0 < p.nline ∧ MoConforms mo p frs lws

theorem AlgOk.firstFit {mo : MinimaOracle Int} {alg : Alg} {frs : List Word} {lws : List Nat}
    (h : alg = .firstFit) : AlgOk mo alg frs lws := fun p hp => by rw [h] at hp; cases hp

theorem AlgOk.optimal {mo : MinimaOracle Int} {alg : Alg} {p : Penalties} {frs : List Word} {lws : List Nat}
    (h : alg = .optimalFit p) (hP : 0 < p.nline) (hmo : MoConforms mo p frs lws) : AlgOk mo alg frs lws :=
  fun q hq => by rw [h] at hq; cases hq; exact ⟨hP, hmo⟩

/-- the `smawk` clause of the contracts, for the model's own `smawk`. At most two line widths:
    beyond that the cost matrix need not be totally monotone (KF-4); `wrap` passes two. -/
-- @audit TW.C05.moConforms_own
theorem moConforms_own (p : Penalties) (frs : List Word) (hnp : NoPen frs) (lws : List Nat) (hl : lws.length ≤ 2) :
    MoConforms (ownMinima p) p frs lws :=
  ownMinima_isMinimaRows p _ (by simpa using hl) _ (hyp_words p _ frs hnp)

theorem wrapAlg_one_line {mo : MinimaOracle Int} {alg : Alg} {frs : List Word} {a b : Nat}
    (hnp : NoPen frs) (hfit : fragSum frs ≤ a) (hc : AlgOk mo alg frs [a, b]) :
    wrapAlg mo alg frs [a, b] = some [frs] := by
  cases alg with
  | firstFit =>
    rw [wrapAlg_firstFit]
    exact congrArg some (wrapFirstFit_one_line [(a : Int), (b : Int)] frs hnp (Int.ofNat_le.mpr hfit))
  | optimalFit p =>
    obtain ⟨hP, hmo⟩ := hc p rfl
    exact wrapAlg_optimal_one_line mo p hP frs a b hnp hfit hmo

/-- what that one line is: the indent followed by the paragraph with trailing spaces removed -/
-- @audit TW.C05.one_line_render
theorem one_line_render (env : Env) (o : Opts) (line : Text) (nPrev : Nat) (frs : List Word)
    (hok : ∀ w ∈ frs, FragOk env.cw w) (hl : LastOk frs) (hnp : NoPen frs) (ht : wordsText frs = line) :
    (specLines o [frs] 0 nPrev).map LineD.render = [indentOf o nPrev ++ trimEndSp line] := by
  -- the trimmed line is the slice of the one group: its gap is spaces, its slice ends in none
  have htrim : trimEndSp line = groupSlice frs := by
    rw [← ht]; exact (group_trim frs hl.slice_noTrail (groupGap_spaces env.cw frs hok)).1
  simp [specLines_cons, groupPen_eq_nil frs hnp, htrim]

section
variable {env : Env} {mo : MinimaOracle Int} {o : Opts} {line : Text} {nPrev : Nat} {frs : List Word}
  (hb : Builtin o.splitter)
  (hpipe : pipeline env o line (o.width - displayWidth env.cw o.subsequentIndent) = some frs)
  (hc : AlgOk mo o.alg frs (lineWidths env o nPrev))
include hb hpipe hc

section
variable (hfit : fragSum frs ≤ o.width - displayWidth env.cw (indentOf o nPrev))
include hfit

theorem slow_one_line : wrapSingleLineSlow env mo o line nPrev = some (specLines o [frs] 0 nPrev) := by
  refine wrapSingleLineSlow_of_groups (G := [frs]) hpipe
    (pipeline_contig_builtin hb hpipe).1 ?_ List.flatten_singleton
  rw [lineWidths_eq] at hc ⊢
  exact wrapAlg_one_line (pipeline_noPen hb hpipe) hfit hc

variable (hl : LastOk frs)
include hl

theorem slow_one_line_render :
    (wrapSingleLineSlow env mo o line nPrev).map (·.map LineD.render) =
      some [indentOf o nPrev ++ trimEndSp line] := by
  obtain ⟨c1, c2⟩ := pipeline_contig_builtin hb hpipe
  rw [slow_one_line hb hpipe hc hfit, Option.map_some,
    one_line_render env o line nPrev frs c2 hl (pipeline_noPen hb hpipe) c1]

/-- C05 for `wrap_single_line` itself, whichever path it takes -/
theorem wrapSingleLine_one_line :
    (wrapSingleLine env mo o line nPrev).map (·.map LineD.render) =
      some [indentOf o nPrev ++ trimEndSp line] := by
  by_cases hshort : blen line < o.width ∧ indentOf o nPrev = []
  · rw [wrapSingleLine_short env mo hshort.1 hshort.2, hshort.2]
    simp
  · rw [wrapSingleLine_long env mo hshort]
    exact slow_one_line_render hb hpipe hc hfit hl

end

/-! ### the shortcut is sound; first-fit

The `shortcut_sound_*` theorems: when `wrap_single_line` takes its byte-length shortcut
(`line.len() < width`, empty indent), the general path would have returned the same line. Nothing
is asked of the text: the cached widths and whitespace lengths of the fragments sum to at most the
byte length of the line (each cached width is a display width from state `normal`, hence at most
its byte length — C10), whatever escape sequences the fragments cut through, so neither algorithm
breaks the line. `LastOk` (the last fragment's word does not end in a space) is a theorem for the
ASCII separator (`pipeline_lastOk_ascii`) and, under the LB7 clause, for the Unicode separator. -/

theorem shortcut_sound_of_algOk (hcw : ∀ c, env.cw c ≤ c.utf8Size) (hl : LastOk frs)
    (hshort : blen line < o.width ∧ (indentOf o nPrev).isEmpty = true) :
    (wrapSingleLineSlow env mo o line nPrev).map (·.map LineD.render) =
      (wrapSingleLine env mo o line nPrev).map (·.map LineD.render) := by
  have hind : indentOf o nPrev = [] := by simpa using hshort.2
  obtain ⟨c1, c2⟩ := pipeline_contig_builtin hb hpipe
  have hsum := fragSum_le_blen env.cw hcw frs c2
  rw [c1] at hsum
  have hfit : fragSum frs ≤ o.width - displayWidth env.cw (indentOf o nPrev) := by
    rw [hind]; exact Nat.le_of_lt (Nat.lt_of_le_of_lt hsum hshort.1)
  rw [slow_one_line_render hb hpipe hc hfit hl, wrapSingleLine_one_line hb hpipe hc hfit hl]

end

/-- first-fit, general path: a paragraph that fits next to its indent comes back as one line.
    Assumes H-norm of the fragments (every fragment boundary in skipper state `normal`): a theorem
    for ESC-free text (`hnorm_of_escfree`) and for safe lines (below). -/
-- @audit TW.C05.fits_one_line_firstfit
theorem fits_one_line_firstfit (env : Env) (hsp : env.cw SP = 1) (mo : MinimaOracle Int) (o : Opts)
    (hb : Builtin o.splitter) (halg : o.alg = .firstFit) (line : Text) (nPrev : Nat) (frs : List Word)
    (hpipe : pipeline env o line (o.width - displayWidth env.cw o.subsequentIndent) = some frs)
    (hn : HNorm frs)
    (hfit : displayWidth env.cw (indentOf o nPrev) + displayWidth env.cw line ≤ o.width) :
    wrapSingleLineSlow env mo o line nPrev = some (specLines o [frs] 0 nPrev) :=
  slow_one_line hb hpipe (AlgOk.firstFit halg)
    (by rw [fragSum_of_hnorm hsp hb hpipe hn]; exact Nat.le_sub_of_add_le' hfit)

/-- first-fit, every text, `LastOk` as a hypothesis -/
-- @audit TW.C05.shortcut_sound_firstfit_all
theorem shortcut_sound_firstfit_all (env : Env) (hcw : ∀ c, env.cw c ≤ c.utf8Size)
    (mo : MinimaOracle Int) (o : Opts) (hb : Builtin o.splitter) (halg : o.alg = .firstFit)
    (line : Text) (nPrev : Nat) (frs : List Word)
    (hpipe : pipeline env o line (o.width - displayWidth env.cw o.subsequentIndent) = some frs)
    (hl : LastOk frs)
    (hshort : blen line < o.width ∧ (indentOf o nPrev).isEmpty = true) :
    (wrapSingleLineSlow env mo o line nPrev).map (·.map LineD.render) =
      (wrapSingleLine env mo o line nPrev).map (·.map LineD.render) :=
  shortcut_sound_of_algOk hb hpipe (AlgOk.firstFit halg) hcw hl hshort

/-- `shortcut_sound_firstfit_all` with H-norm and `cw ' ' = 1` as further hypotheses; neither is
    used -/
-- @audit TW.C05.shortcut_sound_firstfit
theorem shortcut_sound_firstfit (env : Env) (hsp : env.cw SP = 1) (hcw : ∀ c, env.cw c ≤ c.utf8Size)
    (mo : MinimaOracle Int) (o : Opts) (hb : Builtin o.splitter) (halg : o.alg = .firstFit)
    (line : Text) (nPrev : Nat) (frs : List Word)
    (hpipe : pipeline env o line (o.width - displayWidth env.cw o.subsequentIndent) = some frs)
    (hn : HNorm frs) (hl : LastOk frs)
    (hshort : blen line < o.width ∧ (indentOf o nPrev).isEmpty = true) :
    (wrapSingleLineSlow env mo o line nPrev).map (·.map LineD.render) =
      (wrapSingleLine env mo o line nPrev).map (·.map LineD.render) :=
  shortcut_sound_firstfit_all env hcw mo o hb halg line nPrev frs hpipe hl hshort

/-- Unicode separator, first-fit: every line, relative to one clause of the contract of the
    external `unicode-linebreak` routine (`OppsNoSpace`: no break opportunity directly before a
    space, UAX #14 rule LB7; validated by the harness on every case) -/
-- @audit TW.C05.shortcut_sound_unicode_all
theorem shortcut_sound_unicode_all (env : Env) (hcw : ∀ c, env.cw c ≤ c.utf8Size)
    (mo : MinimaOracle Int) (o : Opts) (hb : Builtin o.splitter) (halg : o.alg = .firstFit)
    (hsep : o.sep = .unicode) (line : Text) (nPrev : Nat)
    (hc : OppsNoSpace (stripAnsi line) (env.opps (stripAnsi line))) (frs : List Word)
    (hpipe : pipeline env o line (o.width - displayWidth env.cw o.subsequentIndent) = some frs)
    (hshort : blen line < o.width ∧ (indentOf o nPrev).isEmpty = true) :
    (wrapSingleLineSlow env mo o line nPrev).map (·.map LineD.render) =
      (wrapSingleLine env mo o line nPrev).map (·.map LineD.render) :=
  shortcut_sound_firstfit_all env hcw mo o hb halg line nPrev frs hpipe
    (pipeline_lastOk_unicode env o hsep (builtin_inRange hb) line hc _ frs hpipe) hshort

/-! ### optimal-fit -/

/-- optimal-fit, general path: a paragraph that fits comes back as one line, for any penalties
    with `nline_penalty > 0` (the default: table obligation `default_nline_pos`) and any
    conforming `minima` — the one-line arrangement is the unique minimum. H-norm as for first-fit. -/
-- @audit TW.C05.fits_one_line_optimal
theorem fits_one_line_optimal (env : Env) (hsp : env.cw SP = 1) (mo : MinimaOracle Int) (o : Opts)
    (hb : Builtin o.splitter) (p : Penalties) (halg : o.alg = .optimalFit p) (hP : 0 < p.nline)
    (line : Text) (nPrev : Nat) (frs : List Word)
    (hpipe : pipeline env o line (o.width - displayWidth env.cw o.subsequentIndent) = some frs)
    (hn : HNorm frs)
    (hmo : MoConforms mo p frs
      [if nPrev = 0 then o.width - displayWidth env.cw o.initialIndent
       else o.width - displayWidth env.cw o.subsequentIndent,
       o.width - displayWidth env.cw o.subsequentIndent])
    (hfit : displayWidth env.cw (indentOf o nPrev) + displayWidth env.cw line ≤ o.width) :
    wrapSingleLineSlow env mo o line nPrev = some (specLines o [frs] 0 nPrev) :=
  slow_one_line hb hpipe (AlgOk.optimal halg hP hmo)
    (by rw [fragSum_of_hnorm hsp hb hpipe hn]; exact Nat.le_sub_of_add_le' hfit)

/-- the default penalties have `nline_penalty > 0` (a table obligation: `Gen.defaultPenalties` is
    generated from the crate's constants) -/
-- @audit TW.C05.default_nline_pos
theorem default_nline_pos : 0 < Gen.defaultPenalties.1 := by decide +kernel

/-- optimal-fit (the default algorithm) with `nline_penalty > 0` and conforming `minima`, every
    text, `LastOk` as a hypothesis -/
-- @audit TW.C05.shortcut_sound_optimal_all
theorem shortcut_sound_optimal_all (env : Env) (hcw : ∀ c, env.cw c ≤ c.utf8Size)
    (mo : MinimaOracle Int) (o : Opts) (hb : Builtin o.splitter) (p : Penalties)
    (halg : o.alg = .optimalFit p) (hP : 0 < p.nline)
    (line : Text) (nPrev : Nat) (frs : List Word)
    (hpipe : pipeline env o line (o.width - displayWidth env.cw o.subsequentIndent) = some frs)
    (hl : LastOk frs)
    (hmo : MoConforms mo p frs
      [if nPrev = 0 then o.width - displayWidth env.cw o.initialIndent
       else o.width - displayWidth env.cw o.subsequentIndent,
       o.width - displayWidth env.cw o.subsequentIndent])
    (hshort : blen line < o.width ∧ (indentOf o nPrev).isEmpty = true) :
    (wrapSingleLineSlow env mo o line nPrev).map (·.map LineD.render) =
      (wrapSingleLine env mo o line nPrev).map (·.map LineD.render) :=
  shortcut_sound_of_algOk hb hpipe (AlgOk.optimal halg hP hmo) hcw hl hshort

/-- `shortcut_sound_optimal_all` with H-norm and `cw ' ' = 1` as further hypotheses; neither is
    used -/
-- @audit TW.C05.shortcut_sound_optimal
theorem shortcut_sound_optimal (env : Env) (hsp : env.cw SP = 1) (hcw : ∀ c, env.cw c ≤ c.utf8Size)
    (mo : MinimaOracle Int) (o : Opts) (hb : Builtin o.splitter) (p : Penalties)
    (halg : o.alg = .optimalFit p) (hP : 0 < p.nline)
    (line : Text) (nPrev : Nat) (frs : List Word)
    (hpipe : pipeline env o line (o.width - displayWidth env.cw o.subsequentIndent) = some frs)
    (hn : HNorm frs) (hl : LastOk frs)
    (hmo : MoConforms mo p frs
      [if nPrev = 0 then o.width - displayWidth env.cw o.initialIndent
       else o.width - displayWidth env.cw o.subsequentIndent,
       o.width - displayWidth env.cw o.subsequentIndent])
    (hshort : blen line < o.width ∧ (indentOf o nPrev).isEmpty = true) :
    (wrapSingleLineSlow env mo o line nPrev).map (·.map LineD.render) =
      (wrapSingleLine env mo o line nPrev).map (·.map LineD.render) :=
  shortcut_sound_optimal_all env hcw mo o hb p halg hP line nPrev frs hpipe hl hmo hshort

/-! ### every algorithm, both separators: the shortcut relative to the external contracts -/

/-- the clauses of the external routines' contracts that the shortcut of one paragraph rests on
    (each validated by the harness on every call):
    * Unicode separator — `unicode_linebreak` returns char boundaries and no opportunity directly
      before a space (UAX #14, LB7);
    * optimal-fit — `nline_penalty > 0` and the recorded `smawk` rows are row minima
      (`MoConforms`) for the paragraph's fragments and either pair of line widths. -/
def ShortcutContracts (env : Env) (mo : MinimaOracle Int) (o : Opts) (p : Text) : Prop :=
  (o.sep = .unicode →
    OppsNoSpace (stripAnsi p) (env.opps (stripAnsi p)) ∧
    ∀ o' ∈ env.opps (stripAnsi p), o' < blen (stripAnsi p) → ∃ l r, stripAnsi p = l ++ r ∧ blen l = o') ∧
  (∀ pen, o.alg = .optimalFit pen → 0 < pen.nline ∧
    ∀ frs, pipeline env o p (o.width - displayWidth env.cw o.subsequentIndent) = some frs →
      ∀ nPrev : Nat, MoConforms mo pen frs
        [if nPrev = 0 then o.width - displayWidth env.cw o.initialIndent
         else o.width - displayWidth env.cw o.subsequentIndent,
         o.width - displayWidth env.cw o.subsequentIndent])

/-- with a built-in splitter the pipeline fails only if the Unicode separator does -/
theorem pipeline_total (env : Env) (o : Opts) (hb : Builtin o.splitter) (line : Text) (sw : Nat)
    (hu : o.sep = .unicode → ∀ o' ∈ env.opps (stripAnsi line), o' < blen (stripAnsi line) →
      ∃ l r, stripAnsi line = l ++ r ∧ blen l = o') :
    ∃ frs, pipeline env o line sw = some frs :=
  _root_.TW.pipeline_total env o hb line sw hu

theorem ShortcutContracts.fragments {env : Env} {mo : MinimaOracle Int} {o : Opts} {p : Text}
    (hc : ShortcutContracts env mo o p) (hb : Builtin o.splitter) :
    ∃ frs, pipeline env o p (o.width - displayWidth env.cw o.subsequentIndent) = some frs ∧ LastOk frs ∧
      ∀ nPrev : Nat, AlgOk mo o.alg frs (lineWidths env o nPrev) := by
  obtain ⟨frs, hp⟩ := pipeline_total env o hb p (o.width - displayWidth env.cw o.subsequentIndent)
    (fun h => (hc.1 h).2)
  exact ⟨frs, hp, pipeline_lastOk (builtin_inRange hb) (fun h => (hc.1 h).1) hp,
    fun nPrev pen h => ⟨(hc.2 pen h).1, (hc.2 pen h).2 frs hp nPrev⟩⟩

theorem shortcutContracts_ascii_firstfit {env : Env} {mo : MinimaOracle Int} {o : Opts}
    (hsep : o.sep = .ascii) (halg : o.alg = .firstFit) {p : Text} : ShortcutContracts env mo o p :=
  ⟨(fun h => nomatch hsep.symm.trans h), fun _ h => nomatch halg.symm.trans h⟩

/-- every algorithm, both separators, every text — relative to `ShortcutContracts` -/
-- @audit TW.C05.shortcut_sound_all
theorem shortcut_sound_all (env : Env) (hcw : ∀ c, env.cw c ≤ c.utf8Size)
    (mo : MinimaOracle Int) (o : Opts) (hb : Builtin o.splitter) (line : Text) (nPrev : Nat)
    (hc : ShortcutContracts env mo o line)
    (hshort : blen line < o.width ∧ (indentOf o nPrev).isEmpty = true) :
    (wrapSingleLineSlow env mo o line nPrev).map (·.map LineD.render) =
      (wrapSingleLine env mo o line nPrev).map (·.map LineD.render) := by
  obtain ⟨frs, hp, hl, ha⟩ := hc.fragments hb
  exact shortcut_sound_of_algOk hb hp (ha nPrev) hcw hl hshort

/-- ASCII separator, first-fit: every line, no hypothesis on the text at all -/
-- @audit TW.C05.shortcut_sound_ascii_all
theorem shortcut_sound_ascii_all (env : Env) (hcw : ∀ c, env.cw c ≤ c.utf8Size)
    (mo : MinimaOracle Int) (o : Opts) (hb : Builtin o.splitter) (halg : o.alg = .firstFit)
    (hsep : o.sep = .ascii) (line : Text) (nPrev : Nat)
    (hshort : blen line < o.width ∧ (indentOf o nPrev).isEmpty = true) :
    (wrapSingleLineSlow env mo o line nPrev).map (·.map LineD.render) =
      (wrapSingleLine env mo o line nPrev).map (·.map LineD.render) :=
  shortcut_sound_all env hcw mo o hb line nPrev
    (shortcutContracts_ascii_firstfit hsep halg) hshort

/-- `shortcut_sound_ascii_all` for ESC-free lines, with `cw ' ' = 1` as a further hypothesis;
    neither is used -/
-- @audit TW.C05.shortcut_sound_ascii_escfree
theorem shortcut_sound_ascii_escfree (env : Env) (hsp : env.cw SP = 1) (hcw : ∀ c, env.cw c ≤ c.utf8Size)
    (mo : MinimaOracle Int) (o : Opts) (hb : Builtin o.splitter) (halg : o.alg = .firstFit)
    (hsep : o.sep = .ascii) (line : Text) (hesc : ∀ c ∈ line, c ≠ ESC) (nPrev : Nat)
    (hshort : blen line < o.width ∧ (indentOf o nPrev).isEmpty = true) :
    (wrapSingleLineSlow env mo o line nPrev).map (·.map LineD.render) =
      (wrapSingleLine env mo o line nPrev).map (·.map LineD.render) :=
  shortcut_sound_ascii_all env hcw mo o hb halg hsep line nPrev hshort

/-- `wrap` with the shortcut removed: every paragraph goes through the general path -/
def wrapNoShortcut (env : Env) (mo : MinimaOracle Int) (o : Opts) (text : Text) : Option (List Text) :=
  wrapR (blen o.lineEnding.str) (wrapSingleLineSlow env mo o) (splitEnding o.lineEnding text) 0 0

/-- one paragraph: `wrap_single_line` renders what its general path renders, given the contracts when the
    paragraph is shorter than the width -/
theorem wrapSingleLine_eq_slow {env : Env} (hcw : ∀ c, env.cw c ≤ c.utf8Size) {mo : MinimaOracle Int} {o : Opts}
    (hb : Builtin o.splitter) {p : Text} (hc : blen p < o.width → ShortcutContracts env mo o p) (n : Nat) :
    (wrapSingleLine env mo o p n).map (·.map LineD.render) =
      (wrapSingleLineSlow env mo o p n).map (·.map LineD.render) := by
  by_cases hshort : blen p < o.width ∧ indentOf o n = []
  · exact (shortcut_sound_all env hcw mo o hb p n (hc hshort.1) (by simpa using hshort)).symm
  · rw [wrapSingleLine_long env mo hshort]

/-- `wrap` returns the same lines with or without its byte-length shortcut (every algorithm, both
    separators), for every text whose paragraphs that are shorter than the width meet the external
    contracts -/
-- @audit TW.C05.wrap_shortcut_unobservable
theorem wrap_shortcut_unobservable (env : Env) (hcw : ∀ c, env.cw c ≤ c.utf8Size)
    (mo : MinimaOracle Int) (o : Opts) (hb : Builtin o.splitter) (text : Text)
    (hc : ∀ p ∈ splitEnding o.lineEnding text, blen p < o.width → ShortcutContracts env mo o p) :
    wrap env mo o text = wrapNoShortcut env mo o text :=
  -- both sides unfold to `(wrapParas …).map (·.map render)` (`wrap` through `wrapD`, `wrapNoShortcut`
  -- through `wrapR`), and the paragraph loop sees of the single-paragraph routine only the rendered lines
  wrapParas_map_congr LineD.render (fun _ t => t) (fun _ _ => rfl) fun p hp n =>
    wrapSingleLine_eq_slow hcw hb (hc p hp) n

/-- ASCII separator, first-fit: every text, width, indents and paragraph structure. Hence results
    never change as the width crosses the byte length of a paragraph. -/
-- @audit TW.C05.wrap_shortcut_unobservable_ascii
theorem wrap_shortcut_unobservable_ascii (env : Env) (hcw : ∀ c, env.cw c ≤ c.utf8Size)
    (mo : MinimaOracle Int) (o : Opts) (hb : Builtin o.splitter) (halg : o.alg = .firstFit)
    (hsep : o.sep = .ascii) (text : Text) :
    wrap env mo o text = wrapNoShortcut env mo o text :=
  wrap_shortcut_unobservable env hcw mo o hb text fun _ _ _ =>
    shortcutContracts_ascii_firstfit hsep halg

/-! ### optimal-fit without the `smawk` contract

With the model's own `smawk` (`ownMinima`, TextwrapModel/Smawk.lean) the contract clause
`MoConforms` is a theorem (`TW.ownMinima_isMinimaRows`): the pipeline's fragments carry no
penalty with the built-in splitters, widths are natural numbers, and `wrap` uses two line
widths. What remains of `ShortcutContracts` is the clause about `unicode_linebreak` and
`nline_penalty > 0` (`shortcutContracts_own`). -/

theorem shortcutContracts_own {env : Env} {o : Opts} (hb : Builtin o.splitter) {pen0 : Penalties}
    (halg : o.alg = .firstFit ∨ (o.alg = .optimalFit pen0 ∧ 0 < pen0.nline)) {p : Text}
    (hu : o.sep = .unicode →
      OppsNoSpace (stripAnsi p) (env.opps (stripAnsi p)) ∧
      ∀ o' ∈ env.opps (stripAnsi p), o' < blen (stripAnsi p) → ∃ l r, stripAnsi p = l ++ r ∧ blen l = o') :
    ShortcutContracts env (ownMinima pen0) o p := by
  refine ⟨hu, fun pen hpen => ?_⟩
  rcases halg with h | ⟨h, hP⟩
  · rw [h] at hpen; cases hpen
  · rw [h] at hpen
    cases hpen
    exact ⟨hP, fun frs hfrs _ => moConforms_own pen0 frs (pipeline_noPen hb hfrs) _ (Nat.le_refl 2)⟩

/-- ASCII separator, first-fit or optimal-fit with any penalties having `nline_penalty > 0`: every
    text, width and indents, with no assumption about `smawk` -/
-- @audit TW.C05.wrap_shortcut_unobservable_own_ascii
theorem wrap_shortcut_unobservable_own_ascii (env : Env) (hcw : ∀ c, env.cw c ≤ c.utf8Size)
    (o : Opts) (hb : Builtin o.splitter) (hsep : o.sep = .ascii) (pen0 : Penalties)
    (halg : o.alg = .firstFit ∨ (o.alg = .optimalFit pen0 ∧ 0 < pen0.nline)) (text : Text) :
    wrap env (ownMinima (α := Int) pen0) o text = wrapNoShortcut env (ownMinima (α := Int) pen0) o text :=
  wrap_shortcut_unobservable env hcw _ o hb text fun _ _ _ =>
    shortcutContracts_own hb halg fun h => nomatch hsep.symm.trans h

/-- the same for both separators, relative to the `unicode_linebreak` clause only -/
-- @audit TW.C05.wrap_shortcut_unobservable_own
theorem wrap_shortcut_unobservable_own (env : Env) (hcw : ∀ c, env.cw c ≤ c.utf8Size)
    (o : Opts) (hb : Builtin o.splitter) (pen0 : Penalties)
    (halg : o.alg = .firstFit ∨ (o.alg = .optimalFit pen0 ∧ 0 < pen0.nline)) (text : Text)
    (hu : ∀ p ∈ splitEnding o.lineEnding text, blen p < o.width → o.sep = .unicode →
      OppsNoSpace (stripAnsi p) (env.opps (stripAnsi p)) ∧
      ∀ o' ∈ env.opps (stripAnsi p), o' < blen (stripAnsi p) → ∃ l r, stripAnsi p = l ++ r ∧ blen l = o') :
    wrap env (ownMinima (α := Int) pen0) o text = wrapNoShortcut env (ownMinima (α := Int) pen0) o text :=
  wrap_shortcut_unobservable env hcw _ o hb text fun p hp hlt =>
    shortcutContracts_own hb halg (hu p hp hlt)

/-! ### coloured text: H-norm discharged for safe lines

Safe (`SeqSafe`): every space (and, with the hyphen splitter, every hyphen) is met in skipper state
`normal` and the line ends in state `normal`; in particular (`seqSafe_of_segs`) any mixture of
visible characters and well-formed CSI/OSC sequences whose sequences contain no space (and no
hyphen). The recorded finding classes KF-1a, KF-1b, KF-2 lie in the complement. -/

/-- `fits_one_line_firstfit` for safe lines -/
-- @audit TW.C05.fits_one_line_firstfit_safe
theorem fits_one_line_firstfit_safe (env : Env) (hsp : env.cw SP = 1) (mo : MinimaOracle Int) (o : Opts)
    (hb : Builtin o.splitter) (halg : o.alg = .firstFit) (line : Text) (hsafe : SeqSafe o.splitter line)
    (nPrev : Nat) (frs : List Word)
    (hpipe : pipeline env o line (o.width - displayWidth env.cw o.subsequentIndent) = some frs)
    (hfit : displayWidth env.cw (indentOf o nPrev) + displayWidth env.cw line ≤ o.width) :
    wrapSingleLineSlow env mo o line nPrev = some (specLines o [frs] 0 nPrev) :=
  fits_one_line_firstfit env hsp mo o hb halg line nPrev frs hpipe
    (pipeline_hnorm env o hb line hsafe _ frs hpipe) hfit

/-- `fits_one_line_optimal` for safe lines -/
-- @audit TW.C05.fits_one_line_optimal_safe
theorem fits_one_line_optimal_safe (env : Env) (hsp : env.cw SP = 1) (mo : MinimaOracle Int) (o : Opts)
    (hb : Builtin o.splitter) (p : Penalties) (halg : o.alg = .optimalFit p) (hP : 0 < p.nline)
    (line : Text) (hsafe : SeqSafe o.splitter line) (nPrev : Nat) (frs : List Word)
    (hpipe : pipeline env o line (o.width - displayWidth env.cw o.subsequentIndent) = some frs)
    (hmo : MoConforms mo p frs
      [if nPrev = 0 then o.width - displayWidth env.cw o.initialIndent
       else o.width - displayWidth env.cw o.subsequentIndent,
       o.width - displayWidth env.cw o.subsequentIndent])
    (hfit : displayWidth env.cw (indentOf o nPrev) + displayWidth env.cw line ≤ o.width) :
    wrapSingleLineSlow env mo o line nPrev = some (specLines o [frs] 0 nPrev) :=
  fits_one_line_optimal env hsp mo o hb p halg hP line nPrev frs hpipe
    (pipeline_hnorm env o hb line hsafe _ frs hpipe) hmo hfit

/-- coloured text is safe: a concrete instance -/
example : SeqSafe .hyphen (renderSegs [.csi "1;31".toList 'm', .ch 'a', .ch ' ', .ch 'b', .ch '-', .ch 'c',
    .osc "8;;http://x.y".toList .st, .ch 'd', .osc "8;;".toList .st, .csi [] 'm']) :=
  seqSafe_of_segs _ _ (by decide +kernel) (by decide +kernel)

/-- `fits_one_line_optimal_safe` with the model's own `smawk`: no assumption about `minima` -/
-- @audit TW.C05.fits_one_line_optimal_own
theorem fits_one_line_optimal_own (env : Env) (hsp : env.cw SP = 1) (o : Opts)
    (hb : Builtin o.splitter) (p : Penalties) (halg : o.alg = .optimalFit p) (hP : 0 < p.nline)
    (line : Text) (hsafe : SeqSafe o.splitter line) (nPrev : Nat) (frs : List Word)
    (hpipe : pipeline env o line (o.width - displayWidth env.cw o.subsequentIndent) = some frs)
    (hfit : displayWidth env.cw (indentOf o nPrev) + displayWidth env.cw line ≤ o.width) :
    wrapSingleLineSlow env (ownMinima (α := Int) p) o line nPrev = some (specLines o [frs] 0 nPrev) :=
  fits_one_line_optimal_safe env hsp _ o hb p halg hP line hsafe nPrev frs hpipe
    (moConforms_own p frs (pipeline_noPen hb hpipe) _ (Nat.le_refl 2)) hfit

/-! ### the whole text: every paragraph fits

If every paragraph is safe and fits next to either indent (`hfit` for every `n`), `wrap` returns
exactly these paragraphs, paragraph `k` as line `k`, each with its indent and without trailing
spaces. -/

/-- the lines expected when every paragraph fits: paragraph `k` with the indent of line `k` -/
def fitLines (o : Opts) : List Text → Nat → List Text
  | [], _ => []
  | p :: ps, n => (indentOf o n ++ trimEndSp p) :: fitLines o ps (n + 1)

theorem wrapR_fitting {elen : Nat} {single : Text → Nat → Option (List LineD)} {o : Opts} {ps : List Text}
    (h : ∀ p ∈ ps, ∀ n, (single p n).map (·.map LineD.render) = some [indentOf o n ++ trimEndSp p])
    {off n : Nat} : wrapR elen single ps off n = some (fitLines o ps n) := by
  induction ps generalizing off n with
  | nil => rfl
  | cons p r ih =>
    rw [wrapR_cons, h p List.mem_cons_self n, Option.bind_some, ih fun q hq => h q (List.mem_cons_of_mem _ hq)]
    rfl

/-- any algorithm and separator, relative to `ShortcutContracts` on every paragraph (here the
    contracts of the external routines are used on the general path too) -/
theorem wrap_fitting_of_contracts {env : Env} (hsp : env.cw SP = 1)
    {mo : MinimaOracle Int} {o : Opts} (hb : Builtin o.splitter) {text : Text}
    (hc : ∀ p ∈ splitEnding o.lineEnding text, ShortcutContracts env mo o p)
    (hsafe : ∀ p ∈ splitEnding o.lineEnding text, SeqSafe o.splitter p)
    (hfit : ∀ p ∈ splitEnding o.lineEnding text, ∀ n,
      displayWidth env.cw (indentOf o n) + displayWidth env.cw p ≤ o.width) :
    wrap env mo o text = some (fitLines o (splitEnding o.lineEnding text) 0) := by
  refine wrapR_fitting fun p hp n => ?_
  obtain ⟨frs, hpipe, hl, ha⟩ := (hc p hp).fragments hb
  exact wrapSingleLine_one_line hb hpipe (ha n)
    (by rw [fragSum_of_hnorm hsp hb hpipe (pipeline_hnorm env o hb p (hsafe p hp) _ frs hpipe)]
        exact Nat.le_sub_of_add_le' (hfit p hp n)) hl

/-- ASCII separator, first-fit, any indents: no contract is needed (`hcw` is not used: the fit is a
    hypothesis here, not a consequence of the byte length) -/
-- @audit TW.C05.wrap_fitting_paragraphs
theorem wrap_fitting_paragraphs (env : Env) (hsp : env.cw SP = 1) (hcw : ∀ c, env.cw c ≤ c.utf8Size)
    (mo : MinimaOracle Int) (o : Opts) (hb : Builtin o.splitter) (halg : o.alg = .firstFit)
    (hsep : o.sep = .ascii) (text : Text)
    (hsafe : ∀ p ∈ splitEnding o.lineEnding text, SeqSafe o.splitter p)
    (hfit : ∀ p ∈ splitEnding o.lineEnding text, ∀ n,
      displayWidth env.cw (indentOf o n) + displayWidth env.cw p ≤ o.width) :
    wrap env mo o text = some (fitLines o (splitEnding o.lineEnding text) 0) :=
  wrap_fitting_of_contracts hsp hb
    (fun _ _ => shortcutContracts_ascii_firstfit hsep halg) hsafe hfit

/-! ### with the model's own `linebreaks` too

For an environment that runs the transcription of `unicode_linebreak::linebreaks` on the compiled
tables, the remaining clause is a theorem for paragraphs without hard-line-break characters
(`HardFree`: none of U+000B, U+000C, U+000D, U+0085, U+2028, U+2029 — the paragraph separator
itself never occurs inside a paragraph); after such a character the crate does report an
opportunity directly before a space (`TW.ownOpps_space_after_hard`), so the restriction is exact. -/

theorem own_lb_contracts {env : Env} (henv : env.opps = ownOpps lbTables) {s : Text} (hf : HardFree s) :
    OppsNoSpace s (env.opps s) ∧ ∀ o' ∈ env.opps s, o' < blen s → ∃ l r, s = l ++ r ∧ blen l = o' :=
  ⟨oppsNoSpace_own env henv s hf, boundary_own env lbTables henv s⟩

/-- `wrap`'s shortcut is unobservable, both separators, both algorithms, with no contract of an
    external crate: `smawk` and `unicode_linebreak` are inside the model -/
-- @audit TW.C05.wrap_shortcut_unobservable_ownlb
theorem wrap_shortcut_unobservable_ownlb (env : Env) (henv : env.opps = ownOpps lbTables)
    (hcw : ∀ c, env.cw c ≤ c.utf8Size)
    (o : Opts) (hb : Builtin o.splitter) (pen0 : Penalties)
    (halg : o.alg = .firstFit ∨ (o.alg = .optimalFit pen0 ∧ 0 < pen0.nline)) (text : Text)
    (hf : ∀ p ∈ splitEnding o.lineEnding text, blen p < o.width → o.sep = .unicode → HardFree (stripAnsi p)) :
    wrap env (ownMinima (α := Int) pen0) o text = wrapNoShortcut env (ownMinima (α := Int) pen0) o text :=
  wrap_shortcut_unobservable_own env hcw o hb pen0 halg text fun p hp hlt hu =>
    own_lb_contracts henv (hf p hp hlt hu)

/-- every paragraph that fits comes back as one unchanged line, both separators, first-fit or
    optimal-fit with any penalties having `nline_penalty > 0`, any indents, with no contract of an
    external crate: the paragraphs are safe, fit next to either indent and — Unicode separator —
    contain no hard-line-break character (`hcw` is not used) -/
-- @audit TW.C05.wrap_fitting_paragraphs_own_all
theorem wrap_fitting_paragraphs_own_all (env : Env) (henv : env.opps = ownOpps lbTables)
    (hsp : env.cw SP = 1) (hcw : ∀ c, env.cw c ≤ c.utf8Size)
    (o : Opts) (hb : Builtin o.splitter) (pen0 : Penalties)
    (halg : o.alg = .firstFit ∨ (o.alg = .optimalFit pen0 ∧ 0 < pen0.nline)) (text : Text)
    (hsafe : ∀ p ∈ splitEnding o.lineEnding text, SeqSafe o.splitter p)
    (hfit : ∀ p ∈ splitEnding o.lineEnding text, ∀ n,
      displayWidth env.cw (indentOf o n) + displayWidth env.cw p ≤ o.width)
    (hf : o.sep = .unicode → ∀ p ∈ splitEnding o.lineEnding text, HardFree (stripAnsi p)) :
    wrap env (ownMinima (α := Int) pen0) o text = some (fitLines o (splitEnding o.lineEnding text) 0) :=
  wrap_fitting_of_contracts hsp hb
    (fun p hp => shortcutContracts_own hb halg fun hs => own_lb_contracts henv (hf hs p hp)) hsafe hfit

end TW.C05
