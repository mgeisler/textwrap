/-
  C07 — first-fit is greedy-maximal. Stated for any number type (only the comparisons the code
  itself makes are used), hence for IEEE doubles as well as for integers.
-/
import Lemmas.FirstFit
import TextwrapModel.Wrap
namespace TW.C07

section
variable {α : Type} [Add α] [LT α] [Zero α] [DecidableRel (α := α) (· < ·)] {β : Type}

/-- In the result, line `k` is measured against the `k`-th listed width (last one repeated, `0`
    for the empty list); within a line every fragment after the first satisfies
    `¬ (lw < acc + w + pen)` with `acc` the accumulated `w + ws` of the fragments before it; and
    the first fragment `g` of the following line satisfies `lw < acc + w_g + pen_g` with `acc`
    the accumulated width of the whole line: a new line is started exactly when the current line
    is non-empty and the next fragment would not fit. -/
-- @audit TW.C07.firstFit_greedy
theorem firstFit_greedy (m : β → Frag α) (frs : List β) (lws : List α) :
    GreedyLines m lws (defaultLw lws) 0 (wrapFirstFit m frs lws) :=
  wrapFirstFit_greedy m lws frs

/-- "exactly when": any partition of a non-empty fragment list into non-empty lines with these
    two properties is the one first-fit returns -/
-- @audit TW.C07.firstFit_unique
theorem firstFit_unique (m : β → Frag α) (frs : List β) (lws : List α) (p : List (List β))
    (hfrs : frs ≠ []) (hflat : p.flatten = frs) (hne : ∀ l ∈ p, l ≠ [])
    (hg : GreedyLines m lws (defaultLw lws) 0 p) : p = wrapFirstFit m frs lws :=
  wrapFirstFit_unique m lws frs p hfrs hflat hne hg

end

/-- `WrapAlgorithm::wrap` with `FirstFit`: for any words and line widths the groups it returns —
    those `wrap` reassembles into lines — are greedy-maximal for the widths handed to it and
    partition the words. (`wrap` passes `lineWidths`: the width left by the indent the paragraph's
    first line carries, then the width left by the subsequent indent.) -/
-- @audit TW.C07.wrapAlg_firstFit_greedy
theorem wrapAlg_firstFit_greedy {α : Type} [CostNum α] (mo : MinimaOracle α) (words : List Word)
    (lws : List Nat) :
    ∃ groups, wrapAlg mo .firstFit words lws = some groups ∧
      GreedyLines (fragOf (α := α)) (lws.map CostNum.ofNat) (defaultLw (lws.map CostNum.ofNat)) 0 groups ∧
      groups.flatten = words :=
  ⟨_, rfl, firstFit_greedy _ _ _, wrapFirstFit_flatten _ _ _⟩

/-! non-vacuity: an exact-fit instance (`3 + 1 + 3 = 7` fits, the third fragment does not) -/
example : (wrapFirstFit (fun (f : Frag Int) => f) [⟨3, 1, 0⟩, ⟨3, 1, 0⟩, ⟨3, 1, 0⟩] [7]).map List.length = [2, 1] := by
  decide +kernel
example : (wrapFirstFit (fun (f : Frag Int) => f) [⟨3, 1, 0⟩, ⟨3, 1, 1⟩, ⟨3, 1, 0⟩] [7]).map List.length = [1, 2] := by
  decide +kernel

end TW.C07
