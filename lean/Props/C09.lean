/-
  C09 — existing line breaks are kept and paragraphs wrap independently.
-/
import Lemmas.WrapAppend
namespace TW.C09

section
variable {α : Type} [CostNum α]

/-- `text.split(line_ending)` of `a ++ ending ++ b`: no match straddles the seams -/
-- @audit TW.C09.split_append
theorem split_append (e : LineEnding) (a b : Text) :
    splitEnding e (a ++ e.str ++ b) = splitEnding e a ++ splitEnding e b :=
  splitEnding_append e a b

/-- the lines `wrap` produces for text that follows at least one earlier line -/
def wrapRest (env : Env) (mo : MinimaOracle α) (o : Opts) (b : Text) : Option (List Text) :=
  wrapR (blen o.lineEnding.str) (wrapSingleLine env mo o) (splitEnding o.lineEnding b) 0 1

/-- the output has at least as many lines as the input has paragraphs (that no text is joined
    across an existing break is `wrap_append`); `wrapD_indent` has it without the two hypotheses -/
-- @audit TW.C09.lines_ge
theorem lines_ge (env : Env) (mo : MinimaOracle α) (hmo : MoShape mo) (o : Opts)
    (hr : SplitterInRange env.isAlnum o.splitter) (t : Text) (ls : List Text)
    (h : wrap env mo o t = some ls) : (splitEnding o.lineEnding t).length ≤ ls.length := by
  obtain ⟨ds, hd, rfl⟩ := wrap_eq_some.mp h
  simpa using (wrapD_indent hd).1

/-- paragraph independence: the result for `a ++ ending ++ b` begins with exactly the lines
    of `wrap(a)`; the remaining lines are `wrapRest b`, which does not mention `a`. (If either
    part fails, so does the whole.) The two hypotheses are not used: `wrap_nonempty` needs none. -/
-- @audit TW.C09.wrap_append
theorem wrap_append (env : Env) (mo : MinimaOracle α) (hmo : MoShape mo) (o : Opts)
    (hr : SplitterInRange env.isAlnum o.splitter) (a b : Text) :
    wrap env mo o (a ++ o.lineEnding.str ++ b) =
      match wrap env mo o a with
      | none => none
      | some la =>
        match wrapRest env mo o b with
        | none => none
        | some lb => some (la ++ lb) := by
  rw [wrap_eq_wrapR, splitEnding_append, wrapR_append, ← wrap_eq_wrapR]
  cases ha : wrap env mo o a with
  | none => rfl
  | some la =>
    -- `b` follows at least one line: its first line carries the subsequent indent
    have hind : C05.indentOf o la.length = C05.indentOf o 1 := by
      cases la with
      | nil => exact absurd rfl (wrap_nonempty ha)
      | cons _ _ => rfl
    rw [Option.bind_some, Nat.zero_add, wrapR_indent_congr hind]
    change (wrapRest env mo o b).map _ = _
    cases wrapRest env mo o b <;> rfl

/-- with equal (in particular empty) indents the remaining lines are `wrap(b)` -/
-- @audit TW.C09.wrapRest_eq_wrap
theorem wrapRest_eq_wrap (env : Env) (mo : MinimaOracle α) (o : Opts)
    (hi : o.initialIndent = o.subsequentIndent) (b : Text) :
    wrapRest env mo o b = wrap env mo o b := by
  rw [wrap_eq_wrapR]
  exact wrapR_indent_congr (by simp [C05.indentOf, hi])

/-- `fill` equals `wrap`'s lines joined by the configured line ending — including when
    `fill` takes its byte-length shortcut: its condition makes the text one paragraph
    (`wrap_of_noLF`) and is `wrap_single_line`'s own condition for the first line, whose shortcut
    returns the same trimmed text -/
-- @audit TW.C09.fill_eq_join
theorem fill_eq_join (env : Env) (mo : MinimaOracle α) (o : Opts) (t : Text) :
    fill env mo o t = (wrap env mo o t).map (joinWith o.lineEnding.str) :=
  fill_eq env mo o t

/-! ### LF → CRLF equivariance -/

def replLF : Text → Text
  | [] => []
  | c :: cs => if c = LF then CR :: LF :: replLF cs else c :: replLF cs

theorem replLF_eq (t : Text) : replLF t = joinWith [CR, LF] (splitLF t) := by
  induction t with
  | nil => rfl
  | cons c cs ih =>
    obtain ⟨a, r, e⟩ := splitLF_eq_cons cs
    rw [replLF, splitLF]
    split
    · rw [ih, e, joinWith_cons_cons]; rfl
    · rw [joinWith_consHead _ _ _ (splitLF_ne_nil cs), ih]

/-- the `"\r\n"` paragraphs of the substituted text are the `'\n'` paragraphs of the original -/
-- @audit TW.C09.split_replace
theorem split_replace (t : Text) : splitCRLF (replLF t) = splitLF t := by
  rw [replLF_eq]
  exact splitEnding_joinWith .crlf _ (splitLF_ne_nil t) (splitLF_no_LF t)

theorem replLF_join (ls : List Text) (hne : ls ≠ []) (hno : ∀ l ∈ ls, LF ∉ l) :
    replLF (joinWith [LF] ls) = joinWith [CR, LF] ls := by
  rw [replLF_eq, splitLF_joinWith ls hne hno]

/-- switching input and option from LF to CRLF changes the output only by that
    substitution (for results whose lines contain no line feed — e.g. indents without one):
    the CRLF run sees the same paragraphs, hence wraps to the same lines, and joins them with
    `"\r\n"` where the LF run uses `'\n'`. Stray `'\r'` characters in the text are covered. -/
-- @audit TW.C09.crlf_equivariant
theorem crlf_equivariant (env : Env) (mo : MinimaOracle α) (o : Opts) (hlf : o.lineEnding = .lf)
    (t : Text) (ls : List Text) (hw : wrap env mo o t = some ls) (hno : ∀ l ∈ ls, LF ∉ l) :
    fill env mo o t = some (joinWith [LF] ls) ∧
    fill env mo { o with lineEnding := .crlf } (replLF t) = some (replLF (joinWith [LF] ls)) := by
  refine ⟨by rw [fill_eq_join, hw, hlf]; rfl, ?_⟩
  rw [fill_eq_join, replLF_join ls (wrap_nonempty hw) hno,
    wrap_congr_paras env mo o .crlf (by rw [hlf]; exact split_replace t), hw]
  rfl

end

end TW.C09
