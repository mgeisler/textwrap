/-
  C18 — dedent removes exactly the longest common whitespace margin.
-/
import Lemmas.Dedent
import Props.C19
namespace TW.C18

/-- the margin: longest common prefix of the leading-whitespace runs of the lines that contain
    a non-whitespace character; `""` if there is none -/
def margin (isWs : Char → Bool) (ls : List Text) : Text :=
  match (ls.filter (nonblank isWs)).map (leadingWs isWs) with
  | [] => []
  | m :: ms => ms.foldl (fun acc w => lcp w acc) m

def lineImage (isWs : Char → Bool) (m : Text) (l : Text) : Text :=
  if nonblank isWs l then l.drop m.length else []

theorem margin_eq_lcpAll (isWs : Char → Bool) (ls : List Text) :
    margin isWs ls = lcpAll ((ls.filter (nonblank isWs)).map (leadingWs isWs)) := rfl

variable {isWs : Char → Bool}

theorem margin_no_nonblank {ls : List Text} (h : ∀ l ∈ ls, nonblank isWs l = false) : margin isWs ls = [] := by
  rw [margin_eq_lcpAll, List.filter_eq_nil_iff.mpr (fun l hl => by simp [h l hl])]
  rfl

theorem filter_nonblank_ne_nil {ls : List Text} (hex : ∃ l ∈ ls, nonblank isWs l = true) :
    ls.filter (nonblank isWs) ≠ [] := by
  obtain ⟨l, hl, hn⟩ := hex
  exact List.ne_nil_of_mem (List.mem_filter.mpr ⟨hl, hn⟩)

theorem prefix_margin_iff {ls : List Text} {w : Text} (hex : ∃ l ∈ ls, nonblank isWs l = true) :
    w <+: margin isWs ls ↔ w.all isWs = true ∧ ∀ l ∈ ls, nonblank isWs l = true → w <+: l := by
  rw [margin_eq_lcpAll, funext (leadingWs_eq_takeWhile (isWs := isWs)),
    prefix_lcpAll_takeWhile_iff (filter_nonblank_ne_nil hex)]
  simp only [List.mem_filter, and_imp]

/-- the margin is a prefix of every line that contains a non-whitespace character -/
-- @audit TW.C18.margin_prefix
theorem margin_prefix (isWs : Char → Bool) (ls : List Text) :
    ∀ l ∈ ls, nonblank isWs l = true → margin isWs ls <+: l :=
  fun l hl hn => ((prefix_margin_iff ⟨l, hl, hn⟩).mp (List.prefix_refl _)).2 l hl hn

/-- it consists of whitespace characters -/
-- @audit TW.C18.margin_ws
theorem margin_ws (isWs : Char → Bool) (ls : List Text) : (margin isWs ls).all isWs = true := by
  rw [margin_eq_lcpAll, funext (leadingWs_eq_takeWhile (isWs := isWs))]
  exact lcpAll_takeWhile_all isWs _

/-- and it is the longest such string -/
-- @audit TW.C18.margin_longest
theorem margin_longest (isWs : Char → Bool) (ls : List Text) (w : Text) (hw : w.all isWs = true)
    (hex : ∃ l ∈ ls, nonblank isWs l = true)
    (hp : ∀ l ∈ ls, nonblank isWs l = true → w <+: l) : w <+: margin isWs ls :=
  (prefix_margin_iff hex).mpr ⟨hw, hp⟩

theorem margin_append_blank (ls : List Text) {b : Text} (hb : nonblank isWs b = false) :
    margin isWs (ls ++ [b]) = margin isWs ls := by
  unfold margin
  rw [List.filter_append]
  simp [List.filter, hb]

theorem margin_unique (isWs : Char → Bool) (ls : List Text) (x : Text) (hx : x.all isWs = true)
    (hex : ∃ l ∈ ls, nonblank isWs l = true)
    (hp : ∀ l ∈ ls, nonblank isWs l = true → x <+: l)
    (hmax : ∀ w : Text, w.all isWs = true → (∀ l ∈ ls, nonblank isWs l = true → w <+: l) → w <+: x) :
    margin isWs ls = x :=
  (hmax _ (margin_ws isWs ls) (margin_prefix isWs ls)).eq_of_length_le
    (margin_longest isWs ls x hx hex hp).length_le

theorem dedentNarrow_dedentSeed (ls : List Text) :
    dedentNarrow isWs (dedentSeed isWs ls).2 (dedentSeed isWs ls).1 = margin isWs ls := by
  fun_induction dedentSeed isWs ls with
  | case1 => rfl
  | case2 l ls hb ih => simpa [margin, nonblank, hb] using ih
  | case3 l ls hb =>
    rw [dedentNarrow_eq ls (by rw [leadingWs_eq_takeWhile]; exact List.all_takeWhile)]
    simp [margin_eq_lcpAll, nonblank, hb]

theorem dedentOut_eq {pre : Text} {ls : List Text} (hp : ∀ l ∈ ls, nonblank isWs l = true → pre <+: l) :
    dedentOut isWs pre ls = (ls.map fun l => lineImage isWs pre l ++ [LF]).flatten := by
  induction ls with
  | nil => simp [dedentOut]
  | cons l rest ih =>
    simp only [dedentOut, List.map_cons, List.flatten_cons, ih (fun x hx => hp x (by simp [hx]))]
    congr 1
    unfold lineImage
    rw [← List.not_all_eq_any_not, ← nonblank]
    by_cases hn : nonblank isWs l = true
    · simp [List.isPrefixOf_iff_prefix.mpr (hp l (by simp) hn), hn]
    · simp [hn]

/-- every line (per `str::lines`) that contains a non-whitespace character is
    output without the margin, every other line as an empty line, each followed by `'\n'`; the
    final `'\n'` is removed iff the input did not end in one. -/
-- @audit TW.C18.dedent_spec
theorem dedent_spec (isWs : Char → Bool) (s : Text) :
    dedent isWs s =
      let body := ((lines s).map fun l => lineImage isWs (margin isWs (lines s)) l ++ [LF]).flatten
      if body.getLast? = some LF ∧ s.getLast? ≠ some LF then body.dropLast else body := by
  unfold dedent
  simp only [dedentNarrow_dedentSeed, dedentOut_eq (margin_prefix isWs (lines s))]

/-- `dedent_spec`'s list of line images has one element per element of `lines s` -/
-- @audit TW.C18.dedent_line_count
theorem dedent_line_count (isWs : Char → Bool) (s : Text) :
    ((lines s).map fun l => lineImage isWs (margin isWs (lines s)) l).length = (lines s).length := by
  simp

/-! ### the text as `'\n'`-separated pieces (text without carriage returns) -/

/-- the shape of `C19.indent_spec`, for text without `'\r'` -/
theorem dedent_terminator {s : Text} (hcr : CR ∉ s) :
    dedent isWs s =
      joinWith [LF] ((splitTerminatorLF s).map (lineImage isWs (margin isWs (splitTerminatorLF s)))) ++
        (if s.getLast? = some LF then [LF] else []) := by
  rw [dedent_spec, lines_of_noCR s hcr]
  by_cases hT : splitTerminatorLF s = []
  · -- only the empty text has no piece
    rw [hT, splitTerminatorLF_eq_nil hT]
    simp
  · simp only [flatten_map_append_sep _ _ _ hT]
    by_cases hs : s.getLast? = some LF <;> simp [hs]

/-- text without `'\r'`: the output is the images of the `'\n'`-separated pieces joined by `'\n'` —
    same number of pieces, a final `'\n'` is kept and none is added -/
-- @audit TW.C18.dedent_pieces
theorem dedent_pieces (isWs : Char → Bool) (s : Text) (hcr : CR ∉ s) :
    dedent isWs s = joinWith [LF] ((splitLF s).map (lineImage isWs (margin isWs (splitLF s)))) := by
  have hm : margin isWs (splitLF s) = margin isWs (splitTerminatorLF s) := by
    rw [splitLF_eq_splitTerminatorLF s]
    split
    · exact margin_append_blank _ (nonblank_nil isWs)
    · rw [List.append_nil]
  rw [dedent_terminator hcr, hm, joinWith_map_splitTerminatorLF _ (by simp [lineImage, nonblank]) s]

theorem dedent_map_pieces {s : Text} (hcr : CR ∉ s) {f : Text → Text}
    (hf : ∀ l, ∀ c ∈ f l, c = LF ∨ c = CR → c ∈ l) :
    dedent isWs (joinWith [LF] ((splitLF s).map f)) =
      joinWith [LF] ((splitLF s).map fun l => lineImage isWs (margin isWs ((splitLF s).map f)) (f l)) := by
  have hnolf : ∀ x ∈ (splitLF s).map f, LF ∉ x :=
    List.forall_mem_map.mpr fun l hl h => splitLF_no_LF s l hl (hf l LF h (Or.inl rfl))
  have hcr2 : CR ∉ joinWith [LF] ((splitLF s).map f) :=
    not_mem_joinWith (by decide)
      (List.forall_mem_map.mpr fun l hl hc => hcr (splitLF_sub s l hl CR (hf l CR hc (Or.inr rfl))))
  rw [dedent_pieces isWs _ hcr2, splitLF_joinWith _ (by simp [splitLF_ne_nil s]) hnolf, List.map_map]
  rfl

/-! ### idempotence -/

theorem mem_of_mem_lineImage {m l : Text} {c : Char} (hc : c ∈ lineImage isWs m l) : c ∈ l := by
  unfold lineImage at hc
  split at hc
  · exact List.mem_of_mem_drop hc
  · simp at hc

theorem nonblank_lineImage {m l : Text} (hm : m.all isWs = true) (hp : nonblank isWs l = true → m <+: l) :
    nonblank isWs (lineImage isWs m l) = nonblank isWs l := by
  unfold lineImage
  by_cases hn : nonblank isWs l = true
  · obtain ⟨t, rfl⟩ := hp hn
    rw [if_pos hn, List.drop_left, nonblank_append_ws hm]
  · rw [if_neg hn, nonblank_nil]
    exact ((Bool.not_eq_true _).mp hn).symm

/-- whitespace put in front of the non-blank lines goes in front of the margin; `f` and `g` give the
    lines with and without it (`dedent` takes it off, `indent` puts it on) -/
theorem margin_map_append {p : Text} (hp : p.all isWs = true) {ls : List Text} {f g : Text → Text}
    (hb : ∀ l ∈ ls, nonblank isWs (f l) = nonblank isWs (g l))
    (hfg : ∀ l ∈ ls, nonblank isWs (g l) = true → f l = p ++ g l)
    (hex : ∃ l ∈ ls, nonblank isWs (g l) = true) :
    margin isWs (ls.map f) = p ++ margin isWs (ls.map g) := by
  have hlws : ((ls.map f).filter (nonblank isWs)).map (leadingWs isWs) =
      (((ls.map g).filter (nonblank isWs)).map (leadingWs isWs)).map (p ++ ·) := by
    simp only [List.filter_map, List.map_map]
    rw [List.filter_congr (p := nonblank isWs ∘ f) (q := nonblank isWs ∘ g) hb]
    apply List.map_congr_left
    intro l hl
    obtain ⟨hl, hn⟩ := List.mem_filter.mp hl
    simp only [Function.comp_apply, hfg l hl hn, leadingWs_append hp]
  rw [margin_eq_lcpAll, margin_eq_lcpAll, hlws, lcpAll_map_append]
  obtain ⟨l, hl, hn⟩ := hex
  exact mt List.map_eq_nil_iff.mp (filter_nonblank_ne_nil ⟨g l, List.mem_map_of_mem hl, hn⟩)

theorem margin_images (isWs : Char → Bool) (ls : List Text) :
    margin isWs (ls.map (lineImage isWs (margin isWs ls))) = [] := by
  have hmw := margin_ws isWs ls
  have hmp := margin_prefix isWs ls
  have hb : ∀ l ∈ ls, nonblank isWs (lineImage isWs (margin isWs ls) l) = nonblank isWs l :=
    fun l hl => nonblank_lineImage hmw (hmp l hl)
  by_cases hex : ∃ l ∈ ls, nonblank isWs l = true
  · -- the lines are their images with the margin in front
    have h := margin_map_append hmw (f := id) (fun l hl => (hb l hl).symm) (fun l hl hn => by
      rw [hb l hl] at hn
      rw [lineImage, if_pos hn]
      exact (List.prefix_iff_eq_append.mp (hmp l hl hn)).symm) (hex.imp fun l h => ⟨h.1, (hb l h.1).trans h.2⟩)
    rw [List.map_id] at h
    exact List.self_eq_append_right.mp h
  · exact margin_no_nonblank (List.forall_mem_map.mpr fun l hl =>
      (hb l hl).trans ((Bool.not_eq_true _).mp fun h => hex ⟨l, hl, h⟩))

theorem lineImage_nil_lineImage {m l : Text} (hm : m.all isWs = true) (hp : nonblank isWs l = true → m <+: l) :
    lineImage isWs [] (lineImage isWs m l) = lineImage isWs m l := by
  rw [lineImage, nonblank_lineImage hm hp, List.length_nil, List.drop_zero]
  by_cases h : nonblank isWs l = true
  · rw [if_pos h]
  · rw [if_neg h, lineImage, if_neg h]

/-- dedent is idempotent on text without carriage returns (with them: known finding KF-3) -/
-- @audit TW.C18.dedent_idempotent
theorem dedent_idempotent (isWs : Char → Bool) (s : Text) (hcr : CR ∉ s) :
    dedent isWs (dedent isWs s) = dedent isWs s := by
  rw [dedent_pieces isWs s hcr,
    dedent_map_pieces hcr (fun _ _ hc _ => mem_of_mem_lineImage hc), margin_images]
  congr 1
  apply List.map_congr_left
  intro l hl
  exact lineImage_nil_lineImage (margin_ws isWs _) (margin_prefix isWs _ l hl)

/-! ### dedent after indent -/

theorem indent_pieces (s : Text) {p : Text} (hp : p.all isWs = true) :
    indent isWs s p = joinWith [LF] ((splitLF s).map fun l => if nonblank isWs l then p ++ l else l) := by
  have hf : C19.lineImage isWs p = fun l => if nonblank isWs l then p ++ l else l := by
    funext l
    unfold C19.lineImage nonblank
    rw [trimEndBy_all isWs p hp]
    cases l.all isWs <;> simp
  rw [C19.indent_spec, hf, joinWith_map_splitTerminatorLF _ (by simp [nonblank]) s]

theorem margin_indent (isWs : Char → Bool) (ls : List Text) (p : Text) (hp : p.all isWs = true)
    (hex : ∃ l ∈ ls, nonblank isWs l = true) :
    margin isWs (ls.map fun l => if nonblank isWs l then p ++ l else l) = p ++ margin isWs ls := by
  have hb : ∀ l ∈ ls, nonblank isWs (if nonblank isWs l then p ++ l else l) = nonblank isWs (id l) := by
    intro l _
    split
    · exact nonblank_append_ws hp l
    · rfl
  have h := margin_map_append hp hb (fun l _ hn => if_pos hn) hex
  rwa [List.map_id] at h

/-- `dedent(indent(s, p)) = dedent(s)` for every whitespace prefix `p` without line feed and
    carriage return and every `s` without carriage returns -/
-- @audit TW.C18.dedent_indent
theorem dedent_indent (isWs : Char → Bool) (s p : Text) (hp : p.all isWs = true)
    (hplf : LF ∉ p) (hpcr : CR ∉ p) (hcr : CR ∉ s) :
    dedent isWs (indent isWs s p) = dedent isWs s := by
  rw [indent_pieces s hp, dedent_pieces isWs s hcr, dedent_map_pieces hcr]
  · congr 1
    apply List.map_congr_left
    intro l hl
    unfold lineImage
    by_cases hn : nonblank isWs l = true
    · simp [hn, nonblank_append_ws hp, margin_indent isWs (splitLF s) p hp ⟨l, hl, hn⟩,
        List.drop_append]
    · simp [hn]
  · intro l c hc hcc
    have hcp : c ∉ p := fun h => hcc.elim (fun e => hplf (e ▸ h)) (fun e => hpcr (e ▸ h))
    split at hc
    · exact (List.mem_append.mp hc).resolve_left hcp
    · exact hc

/-! a whitespace-only line with other whitespace than the margin (DESIGN §8.1), and KF-3 -/
example : dedent (fun c => c = ' ' || c = '\t') ("    foo\n\t\n    bar".toList) = "foo\n\nbar".toList := by
  decide +kernel
/-- KF-3 (known finding): not idempotent on a line ending in CR before CRLF: `lines()` strips
    `"\r\n"`, the output is written with `'\n'`, so the first pass makes a new `"\r\n"` -/
example : dedent (fun c => c = ' ' || c = CR) ['a', CR, CR, LF, 'b'] = ['a', CR, LF, 'b'] ∧
    dedent (fun c => c = ' ' || c = CR) ['a', CR, LF, 'b'] = ['a', LF, 'b'] := by decide +kernel

end TW.C18
