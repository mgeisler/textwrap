/-
  C17 — fill_inplace only turns spaces into newlines and agrees with fill.
-/
import Props.C05
import Lemmas.InplaceWrap
namespace TW.C17

section
variable (α : Type) [CostNum α]

/-- never panics: `line_offset - 1`, `bytes[idx]` and `from_utf8` are fine because every
    written index holds a one-byte `' '`. `wrapped.len() - 1` is not modelled (`inplaceIndices []
    _ = some []`); it cannot underflow, since first-fit always returns a last line (`wrapFirstFit_ne_nil`). -/
-- @audit TW.C17.inplace_total
theorem inplace_total (cw : Char → Nat) (text : Text) (width : Nat) :
    ∃ r, fillInplace α cw text width = some r :=
  ⟨_, (fillInplace_eq α cw text width).1⟩

/-- same length, and the result differs from the original only at positions where a space
    became a newline -/
-- @audit TW.C17.inplace_only_spaces
theorem inplace_only_spaces (cw : Char → Nat) (text : Text) (width : Nat) (r : Text)
    (h : fillInplace α cw text width = some r) : blen r = blen text ∧ r.length = text.length ∧ SpToLF text r := by
  obtain ⟨h1, h2⟩ := fillInplace_eq α cw text width
  obtain rfl := Option.some.inj (h1.symm.trans h)
  have hrel := segs_spToLF (textSegs α cw width (splitLF text))
  rw [h2] at hrel
  exact ⟨by rw [blen_segOut, h2], hrel.length_eq.symm, hrel⟩

/-- by the definitions of `textSegs` and `paraSegs` the segments cut at the last character of every
    group but the last of each paragraph, the groups being what `wrap_first_fit` returns for the
    paragraph's ASCII words at the single line width `width` -/
-- @audit TW.C17.inplace_structure
theorem inplace_structure (cw : Char → Nat) (text : Text) (width : Nat) :
    fillInplace α cw text width = some (segOut (textSegs α cw width (splitLF text))) ∧
      segIn (textSegs α cw width (splitLF text)) = text :=
  fillInplace_eq α cw text width

end

theorem wrapSingleLine_docOpts (env : Env) (hcw : ∀ c, env.cw c ≤ c.utf8Size) (mo : MinimaOracle Int) (w : Nat) (p : Text) (n : Nat) :
    (wrapSingleLine env mo (docOpts w) p n).map (·.map LineD.render) =
      some ((inplaceGroups Int env.cw w p).map groupSlice) :=
  -- the shortcut is unobservable (C05)
  (C05.wrapSingleLine_eq_slow hcw (by simp [docOpts, Builtin])
    (fun _ => C05.shortcutContracts_ascii_firstfit rfl rfl) n).trans (wrapSingleLineSlow_docOpts Int env mo w p n)

/-- agreement with `wrap`: splitting the result of `fill_inplace(text, w)` at newlines and
    trimming trailing spaces gives exactly the lines of `wrap(text)` with the documented options
    (width `w`, `break_words` off, LF, ASCII separator, first-fit, no hyphenation) — for every
    text and width; the byte-length shortcut of `wrap` included. `hcw` (C10) and the exact
    integers are what C05 needs to show that shortcut unobservable; on the general path
    (`wrapSingleLineSlow_docOpts`) any width function and number type do. -/
-- @audit TW.C17.inplace_eq_wrap
theorem inplace_eq_wrap (env : Env) (hcw : ∀ c, env.cw c ≤ c.utf8Size) (mo : MinimaOracle Int)
    (text : Text) (w : Nat) :
    ∃ r, fillInplace Int env.cw text w = some r ∧
      wrap env mo (docOpts w) text = some ((splitLF r).map trimEndSp) := by
  refine ⟨_, (fillInplace_eq Int env.cw text w).1, ?_⟩
  rw [splitLF_textSegs Int env w (splitLF_ne_nil text) (splitLF_no_LF text)]
  show wrapR _ (wrapSingleLine env mo (docOpts w)) (splitLF text) 0 0 = _
  exact wrapR_of_lines _ fun p _ n => wrapSingleLine_docOpts env hcw mo w p n

example : (fillInplace Int (fun _ => 1) "foo bar baz".toList 7).map String.ofList = some "foo bar\nbaz" := by decide +kernel

end TW.C17
