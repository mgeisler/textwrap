/-
  C15 — unfill inverts fill and recovers indents, width and line ending.
  The structural half (all strings) and the round trip with `fill`.
-/
import Lemmas.FillShape
import Lemmas.UnfillLines
import Lemmas.WrapText
namespace TW.C15

/-- `nel_eq_lines`, as the first structural clause of C15 -/
-- @audit TW.C15.nel_agrees_with_lines
theorem nel_agrees_with_lines (t : Text) :
    (nonEmptyLines t).map Prod.fst = (lines t).filter (fun l => !l.isEmpty) := nel_eq_lines t

/-- `unfill` never panics: both slices `&line[indent.len()..]` are in range and on char
    boundaries, because `NonEmptyLines` yields elements of `lines()` and the indents are prefixes
    of them -/
-- @audit TW.C15.unfill_total
theorem unfill_total (cw : Char → Nat) (t : Text) : ∃ u, unfill cw t = some u := ⟨_, unfill_eq cw t⟩

/-- arbitrary input: the returned indents consist of prefix characters and are prefixes of the
    lines they describe -/
-- @audit TW.C15.unfill_indents
theorem unfill_indents (cw : Char → Nat) (t : Text) (u : Unfilled) (h : unfill cw t = some u) :
    u.initialIndent = ((lines t).head?.map prefixOf).getD [] ∧
    u.initialIndent.all isPrefixChar = true ∧ u.subsequentIndent.all isPrefixChar = true ∧
    (∀ l, (lines t).head? = some l → u.initialIndent <+: l) ∧
    (∀ l ∈ (lines t).tail, u.subsequentIndent <+: l) := by
  rw [unfill_eq, Option.some.injEq] at h
  subst h
  refine ⟨rfl, ?_, subIndent_all _, ?_, subIndent_prefix _⟩
  · cases (lines t).head? <;> simp [prefixOf]
  · intro l hl; simp [hl, prefixOf, List.takeWhile_prefix]

/-- arbitrary input: the returned text contains no line feed other than in a final line ending -/
-- @audit TW.C15.unfill_no_inner_break
theorem unfill_no_inner_break (cw : Char → Nat) (t : Text) (u : Unfilled) (h : unfill cw t = some u) :
    ∃ body, LF ∉ body ∧ (u.text = body ∨ u.text = body ++ u.lineEnding.str) := by
  rw [unfill_eq, Option.some.injEq] at h
  subst h
  refine ⟨unfillBody (((lines t).head?.map prefixOf).getD []) (subIndent (lines t).tail)
    ((lines t).filter fun l => !l.isEmpty), fun hm => ?_, ?_⟩
  · rcases mem_unfillBody hm with h | ⟨l, hl, h⟩
    · exact absurd h (by decide)
    · exact lines_no_LF t l (List.mem_filter.mp hl).1 h
  · unfold trailer
    cases detected t with
    | none => left; simp
    | some le => dsimp only; split <;> simp

/-- arbitrary input: the reported line ending is CRLF exactly when `NonEmptyLines` reports at
    least one line ending and none of them is a bare LF. The endings are the ones the model of
    `NonEmptyLines` attaches to its lines; what they are is proved for joined lines only
    (`lines_joined`). -/
-- @audit TW.C15.unfill_ending
theorem unfill_ending (cw : Char → Nat) (t : Text) (u : Unfilled) (h : unfill cw t = some u) :
    u.lineEnding = .crlf ↔
      (∃ x ∈ nonEmptyLines t, x.2 ≠ none) ∧ ∀ x ∈ nonEmptyLines t, x.2 ≠ some .lf := by
  rw [unfill_eq, Option.some.injEq] at h
  subst h
  have key : (detected t).getD LineEnding.lf = .crlf ↔ detected t = some .crlf := by
    cases detected t <;> simp
  show (detected t).getD LineEnding.lf = .crlf ↔ _
  rw [key, detected, foldl_detStep_eq_crlf_iff]
  constructor
  · rintro ⟨⟨e, he, hne⟩, hlf⟩
    obtain ⟨x, hx, rfl⟩ := List.mem_map.mp he
    exact ⟨⟨x, hx, hne⟩, fun y hy hc => hlf (List.mem_map.mpr ⟨y, hy, hc⟩)⟩
  · rintro ⟨⟨x, hx, hne⟩, hall⟩
    refine ⟨⟨x.2, List.mem_map.mpr ⟨x, hx, rfl⟩, hne⟩, ?_⟩
    intro hm
    obtain ⟨y, hy, hc⟩ := List.mem_map.mp hm
    exact hall y hy hc

/-- `maxWidth` is the display width of the widest line -/
-- @audit TW.C15.maxWidth_spec
theorem maxWidth_spec (cw : Char → Nat) (ls : List Text) :
    (∀ l ∈ ls, displayWidth cw l ≤ maxWidth cw 0 ls) ∧
    (ls ≠ [] → ∃ l ∈ ls, displayWidth cw l = maxWidth cw 0 ls) := by
  have hM := (maxWidth_le_iff cw 0 ls _).mp (Nat.le_refl _)
  refine ⟨hM.2, fun hne => Classical.byContradiction fun hno => ?_⟩
  -- were every line narrower, the join would be smaller
  have hlt : ∀ l ∈ ls, displayWidth cw l ≤ maxWidth cw 0 ls - 1 := fun l hl =>
    Nat.le_sub_one_of_lt (Nat.lt_of_le_of_ne (hM.2 l hl) fun e => hno ⟨l, hl, e⟩)
  have := (maxWidth_le_iff cw 0 ls _).mpr ⟨Nat.zero_le _, hlt⟩
  obtain ⟨l, hl⟩ := List.exists_mem_of_ne_nil ls hne
  exact hno ⟨l, hl, by have := hM.2 l hl; omega⟩

/-! the upstream block-quote example -/
example : (unfill (fun _ => 1) "> foo\n> bar\n".toList).map (fun u => (String.ofList u.text, String.ofList u.initialIndent, String.ofList u.subsequentIndent, u.width)) =
    some ("foo bar\n", "> ", "> ", 5) := by decide +kernel

/-! ### the round trip with `fill` -/

section
variable {α : Type} [CostNum α]

/-- the shape of `wrap` on a paragraph of single-spaced words that do not begin with prefix
    characters (`WordOk`), breaks at spaces only (ASCII separator, no split point inside a word,
    `break_words` off), either algorithm: every line is its indent followed by a body, and the
    bodies joined by single spaces are the paragraph. Of optimal-fit only the shape of smawk's
    answer is assumed (`MoShape`, which `C04.ownMinima_moShape` proves of the model's own smawk). -/
-- @audit TW.C15.wrap_shape
theorem wrap_shape (env : Env) (mo : MinimaOracle α) (hmo : MoShape mo) (o : Opts)
    (hsep : o.sep = .ascii) (hbw : o.breakWords = false)
    (ws : List Text) (hne : ws ≠ []) (hws : ∀ w ∈ ws, WordOk w)
    (hpts : ∀ w ∈ ws, o.splitter.points env.isAlnum w = [])
    (ls : List Text) (h : wrap env mo o (joinWith [SP] ws) = some ls) :
    ∃ s0 ss, ls = (o.initialIndent ++ s0) :: ss.map (o.subsequentIndent ++ ·) ∧
      BodyOk s0 ∧ (∀ s ∈ ss, BodyOk s) ∧ joinWith [SP] (s0 :: ss) = joinWith [SP] ws := by
  rw [wrap_of_noLF env mo o (joinWith_SP_noBreak ws hws).1] at h
  obtain ⟨ds, hd, rfl⟩ := Option.map_eq_some_iff.mp h
  rcases wrapSingleLine_inv hd with ⟨_, hii, rfl⟩ | hd
  · -- the shortcut: one line, the paragraph itself
    refine ⟨joinWith [SP] ws, [], ?_, joinWith_SP_bodyOk ws hne hws, by simp, by simp⟩
    rw [show o.initialIndent = [] from hii]
    simp [trimEndSp_id _ (joinWith_SP_no_trailing_sp ws hne hws)]
  · rw [wrapSingleLineSlow_eq, pipeline_words env o hsep hbw ws hne hws hpts, Option.bind_some] at hd
    obtain ⟨G, hg, hd⟩ := Option.bind_eq_some_iff.mp hd
    obtain ⟨p1, p2, p3⟩ := wrapAlg_partition hmo hg
    obtain ⟨hG, hjoin⟩ := slices_of_partition env.cw hws p1 p2 (p3 (mkWords_ne_nil env.cw hne))
    rw [reassemble_eq_spec o _ [] G 0 0 (by simp [p1, wordsText_mkWords]) rfl] at hd
    obtain rfl := Option.some.inj hd
    rw [specLines_render o G 0 0 fun g hgG => (hG g hgG).1]
    cases G with
    | nil => exact absurd rfl p2
    | cons g0 r =>
      refine ⟨groupSlice g0, r.map groupSlice, ?_, (hG g0 (by simp)).2,
        List.forall_mem_map.mpr fun g hgr => (hG g (by simp [hgr])).2, by simpa using hjoin⟩
      simp [List.mapIdx_cons, C05.indentOf, mapIdx_const]

/-- `unfill` inverts `fill`: for a paragraph as in `wrap_shape`, filled under its assumptions with
    indents made of prefix characters and either line ending, `unfill` returns the paragraph, the
    initial indent, the width of the widest line, and — when there are at least two lines — the
    subsequent indent and the line ending. With a trailing line ending appended to the filled
    text the ending is returned too and the line ending is detected from it. -/
-- @audit TW.C15.unfill_fill
theorem unfill_fill (env : Env) (mo : MinimaOracle α) (hmo : MoShape mo) (o : Opts)
    (hsep : o.sep = .ascii) (hbw : o.breakWords = false)
    (hii : o.initialIndent.all isPrefixChar = true) (hsi : o.subsequentIndent.all isPrefixChar = true)
    (ws : List Text) (hne : ws ≠ []) (hws : ∀ w ∈ ws, WordOk w)
    (hpts : ∀ w ∈ ws, o.splitter.points env.isAlnum w = [])
    (filled : Text) (hf : fill env mo o (joinWith [SP] ws) = some filled) :
    ∃ ls, wrap env mo o (joinWith [SP] ws) = some ls ∧ filled = joinWith o.lineEnding.str ls ∧
      unfill env.cw filled = some
        { text := joinWith [SP] ws, width := maxWidth env.cw 0 ls, initialIndent := o.initialIndent,
          subsequentIndent := if ls.length ≤ 1 then [] else o.subsequentIndent,
          lineEnding := if ls.length ≤ 1 then .lf else o.lineEnding } ∧
      unfill env.cw (filled ++ o.lineEnding.str) = some
        { text := joinWith [SP] ws ++ o.lineEnding.str, width := maxWidth env.cw 0 ls,
          initialIndent := o.initialIndent,
          subsequentIndent := if ls.length ≤ 1 then [] else o.subsequentIndent,
          lineEnding := o.lineEnding } := by
  rw [fill_eq] at hf
  obtain ⟨ls, hw, rfl⟩ := Option.map_eq_some_iff.mp hf
  obtain ⟨s0, ss, rfl, b0, bs, ej⟩ := wrap_shape env mo hmo o hsep hbw ws hne hws hpts ls hw
  have hlen : ((o.initialIndent ++ s0) :: ss.map (o.subsequentIndent ++ ·)).length ≤ 1 ↔ ss = [] := by
    cases ss <;> simp
  refine ⟨_, hw, rfl, ?_, ?_⟩
  · rw [unfill_lines env.cw o.lineEnding _ _ s0 ss hii hsi b0 bs, ej]
    simp only [hlen]
  · rw [unfill_lines_trailing env.cw o.lineEnding _ _ s0 ss hii hsi b0 bs, ej]
    simp only [hlen]

end

/-! words and indents that meet `WordOk` and the prefix-character hypotheses -/
example : WordOk "foo".toList ∧ WordOk "x-y".toList ∧ WordOk "é1".toList :=
  ⟨⟨⟨'f', "oo".toList, by decide +kernel, by decide⟩, by decide +kernel⟩,
   ⟨⟨'x', "-y".toList, by decide +kernel, by decide⟩, by decide +kernel⟩,
   ⟨⟨'é', "1".toList, by decide +kernel, by decide⟩, by decide +kernel⟩⟩
example : ("> ".toList).all isPrefixChar = true ∧ ("  * ".toList).all isPrefixChar = true := by decide +kernel

end TW.C15
