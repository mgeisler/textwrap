/-
  C20 — wrap_columns lays text out in aligned columns, column-major, never failing.
-/
import TextwrapModel.Columns
import Lemmas.Ansi
namespace TW.C20

/-- columns.rs:93-102; a wider line protrudes: the padding is a `saturating_sub` -/
def cell (cw : Char → Nat) (wrapped : List Text) (columnWidth lpc r c : Nat) : Text :=
  match wrapped[r + c * lpc]? with
  | some l => l ++ spaces (columnWidth - displayWidth cw l)
  | none => spaces columnWidth

def sepAfter (columns : Nat) (middle lastPad : Text) (c : Nat) : Text :=
  if c = columns - 1 then lastPad else middle

theorem columnsRow_eq (cw : Char → Nat) (wrapped : List Text) (columns columnWidth lpc : Nat)
    (middle lastPad : Text) (r fuel c0 : Nat) :
    columnsRow cw wrapped columns columnWidth lpc middle lastPad r fuel c0 =
      some ((List.range' c0 fuel).map fun c =>
        cell cw wrapped columnWidth lpc r c ++ sepAfter columns middle lastPad c).flatten := by
  induction fuel generalizing c0 with
  | zero => rfl
  | succ fuel ih =>
    simp only [columnsRow, ih (c0 + 1), List.range'_succ, List.map_cons, List.flatten_cons, cell, sepAfter]
    cases wrapped[r + c0 * lpc]? <;> simp only [List.append_assoc]

theorem collectRows_some (f : Nat → Option Text) (g : Nat → Text) (h : ∀ r, f r = some (g r))
    (rs : List Nat) : collectRows f rs = some (rs.map g) := by
  induction rs with
  | nil => rfl
  | cons r rs ih => simp [collectRows, h r, ih]

/-- `inner_width` (columns.rs:78-82) -/
def innerWidth (cw : Char → Nat) (width columns : Nat) (left middle right : Text) : Nat :=
  width - displayWidth cw left - displayWidth cw right - displayWidth cw middle * (columns - 1)
/-- `column_width` (columns.rs:84) -/
def columnWidth (cw : Char → Nat) (width columns : Nat) (left middle right : Text) : Nat :=
  max (innerWidth cw width columns left middle right / columns) 1
/-- `lines_per_column` (columns.rs:88-89) -/
def linesPerColumn (n columns : Nat) : Nat := n / columns + (if n % columns > 0 then 1 else 0)

section
variable {α : Type} [CostNum α]

/-- never failing, row layout: for any column count ≥ 1, whenever `wrap` at the computed
    column width returns, `wrap_columns` returns `linesPerColumn` rows, and every row is the left
    gap, then the cells of columns `0 .. columns-1` each followed by the middle gap (the last one
    by the remainder padding `inner_width % column_width`), then the right gap. A line wider
    than its column protrudes (its padding is empty) instead of making the call fail. -/
-- @audit TW.C20.columns_rows
theorem columns_rows (env : Env) (mo : MinimaOracle α) (o : Opts) (text : Text) (columns : Nat)
    (left middle right : Text) (hc : 1 ≤ columns) (wrapped : List Text)
    (hw : wrap env mo { o with width := columnWidth env.cw o.width columns left middle right } text = some wrapped) :
    wrapColumns env mo o text columns left middle right =
      some ((List.range (linesPerColumn wrapped.length columns)).map fun r =>
        left ++ ((List.range columns).map fun c =>
          cell env.cw wrapped (columnWidth env.cw o.width columns left middle right)
            (linesPerColumn wrapped.length columns) r c ++
          sepAfter columns middle
            (spaces (innerWidth env.cw o.width columns left middle right %
              columnWidth env.cw o.width columns left middle right)) c).flatten ++ right) := by
  unfold wrapColumns
  have hne : columns ≠ 0 := Nat.ne_of_gt hc
  simp only [hne, if_false]
  unfold columnWidth innerWidth at hw
  unfold linesPerColumn columnWidth innerWidth
  rw [hw]
  apply collectRows_some
  intro r
  rw [columnsRow_eq]
  simp [List.range_eq_range']

end

theorem le_linesPerColumn_mul (n columns : Nat) (hc : 1 ≤ columns) :
    n ≤ linesPerColumn n columns * columns := by
  unfold linesPerColumn
  by_cases h : n % columns > 0
  · rw [if_pos h, Nat.add_mul, Nat.one_mul]
    exact Nat.le_of_lt (Nat.lt_div_mul_add hc)
  · rw [if_neg h, Nat.add_zero, Nat.div_mul_cancel (Nat.dvd_of_mod_eq_zero (Nat.eq_zero_of_not_pos h))]
    exact Nat.le_refl n

/-- column-major cover: line `i` of `n` has a cell: `i = r + c * linesPerColumn` (the index
    `cell` looks up) for the row `r = i % linesPerColumn` and the column `c = i / linesPerColumn`,
    which is a valid column -/
-- @audit TW.C20.columns_major
theorem columns_major (n columns : Nat) (hc : 1 ≤ columns) (i : Nat) (hi : i < n) :
    let lpc := linesPerColumn n columns
    i % lpc < lpc ∧ i / lpc < columns ∧ i = i % lpc + (i / lpc) * lpc := by
  intro lpc
  have hcap : n ≤ lpc * columns := le_linesPerColumn_mul n columns hc
  have hlpc : 0 < lpc := Nat.pos_of_ne_zero fun h0 => by
    rw [h0, Nat.zero_mul] at hcap
    exact Nat.not_lt_zero i (Nat.lt_of_lt_of_le hi hcap)
  exact ⟨Nat.mod_lt _ hlpc, Nat.div_lt_of_lt_mul (Nat.lt_of_lt_of_le hi hcap), (Nat.mod_add_div' i lpc).symm⟩

/-- cells whose index is beyond the last wrapped line are blank -/
-- @audit TW.C20.cell_blank
theorem cell_blank (cw : Char → Nat) (wrapped : List Text) (columnWidth lpc r c : Nat)
    (h : wrapped.length ≤ r + c * lpc) : cell cw wrapped columnWidth lpc r c = spaces columnWidth := by
  unfold cell
  rw [List.getElem?_eq_none h]

/-- the cell of a wrapped line is that line followed by padding only (removing the padding gives
    back the line) -/
-- @audit TW.C20.cell_line
theorem cell_line (cw : Char → Nat) (wrapped : List Text) (columnWidth lpc r c : Nat) (l : Text)
    (h : wrapped[r + c * lpc]? = some l) :
    cell cw wrapped columnWidth lpc r c = l ++ spaces (columnWidth - displayWidth cw l) := by
  unfold cell; rw [h]

theorem run_spaces (n : Nat) : Ansi.run .normal (spaces n) = .normal :=
  run_normal_spaces _ fun _ h => List.eq_of_mem_replicate h

theorem dw_spaces (cw : Char → Nat) (hsp : cw SP = 1) (n : Nat) : displayWidth cw (spaces n) = n := by
  rw [displayWidth_spaces cw hsp (spaces n) fun _ h => List.eq_of_mem_replicate h]
  simp [spaces, blen_eq_sum]

/-- a cell of a line that fits has exactly the column width (for text ending in skipper state
    `normal`, `' '` one column wide) -/
-- @audit TW.C20.cell_width
theorem cell_width (cw : Char → Nat) (hsp : cw SP = 1) (wrapped : List Text) (columnWidth lpc r c : Nat)
    (hfit : ∀ l ∈ wrapped, displayWidth cw l ≤ columnWidth ∧ Ansi.run .normal l = .normal) :
    displayWidth cw (cell cw wrapped columnWidth lpc r c) = columnWidth ∧
      Ansi.run .normal (cell cw wrapped columnWidth lpc r c) = .normal := by
  unfold cell
  cases h : wrapped[r + c * lpc]? with
  | none => exact ⟨dw_spaces cw hsp _, run_spaces _⟩
  | some l =>
    obtain ⟨h1, h2⟩ := hfit l (List.mem_of_getElem? h)
    refine ⟨?_, by rw [run_append, h2, run_spaces]⟩
    rw [displayWidth_append cw h2, dw_spaces cw hsp]
    exact Nat.add_sub_of_le h1

theorem map_sepAfter (k : Nat) (f : Nat → Text) (middle lastPad : Text) :
    ((List.range (k + 1)).map fun c => f c ++ sepAfter (k + 1) middle lastPad c) =
      ((List.range k).map fun c => f c ++ middle) ++ [f k ++ lastPad] := by
  rw [List.range_succ, List.map_append]
  congr 1
  · exact List.map_congr_left fun c hc => by simp [sepAfter, Nat.ne_of_lt (List.mem_range.mp hc)]
  · simp [sepAfter]

/-- uniform width: when no wrapped line is wider than the column width, every row has the
    display width `left + right + (columns-1)·middle + columns·column_width + inner % column_width` -/
-- @audit TW.C20.row_width
theorem row_width (cw : Char → Nat) (hsp : cw SP = 1) (wrapped : List Text) (columns columnWidth lpc r : Nat)
    (left middle right : Text) (pad : Nat) (hc : 1 ≤ columns)
    (hfit : ∀ l ∈ wrapped, displayWidth cw l ≤ columnWidth ∧ Ansi.run .normal l = .normal)
    (hl : Ansi.run .normal left = .normal) (hm : Ansi.run .normal middle = .normal) :
    displayWidth cw (left ++ ((List.range columns).map fun c =>
        cell cw wrapped columnWidth lpc r c ++ sepAfter columns middle (spaces pad) c).flatten ++ right) =
      displayWidth cw left + displayWidth cw right + (columns - 1) * displayWidth cw middle +
        columns * columnWidth + pad := by
  obtain ⟨k, rfl⟩ := Nat.exists_eq_add_one.mpr hc
  have hcell := fun c => cell_width cw hsp wrapped columnWidth lpc r c hfit
  -- all of the row before `right` ends in state `normal`, so its width is the sum over the pieces
  obtain ⟨b1, b2⟩ := displayWidth_flatten cw
    (left :: (((List.range k).map fun c => cell cw wrapped columnWidth lpc r c ++ middle) ++
      [cell cw wrapped columnWidth lpc r k ++ spaces pad])) (by
    simp only [List.mem_cons, List.mem_append, List.mem_map, List.not_mem_nil, or_false]
    rintro p (rfl | ⟨c, _, rfl⟩ | rfl)
    · exact hl
    · rw [run_append, (hcell c).2, hm]
    · rw [run_append, (hcell k).2, run_spaces])
  have hmid : ∀ c, displayWidth cw (cell cw wrapped columnWidth lpc r c ++ middle) =
      columnWidth + displayWidth cw middle :=
    fun c => by rw [displayWidth_append cw (hcell c).2, (hcell c).1]
  rw [map_sepAfter, ← List.flatten_cons, displayWidth_append cw b1, b2]
  simp only [List.map_cons, List.map_append, List.map_map, Function.comp_def, hmid, List.map_const',
    List.sum_cons, List.sum_append, List.sum_replicate_nat, List.length_range, List.map_nil, List.sum_nil,
    displayWidth_append cw (hcell k).2, (hcell k).1, dw_spaces cw hsp pad, Nat.add_sub_cancel, Nat.add_mul,
    Nat.mul_add, Nat.one_mul]
  ac_rfl

end TW.C20
