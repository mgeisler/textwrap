/-
  C01 — wrapping preserves the text: lines are in-order slices of the input.
-/
import Lemmas.WrapText
import Lemmas.Ends
import Lemmas.LinebreakTable
namespace TW.C01

section
variable {α : Type} [CostNum α]

/-- contiguity of the fragment pipeline (find → split → break → sentinel), for every
    separator, every splitter whose points lie in the documented range, `break_words` on or off -/
-- @audit TW.C01.pipeline_contiguous
theorem pipeline_contiguous (env : Env) (o : Opts) (hr : SplitterInRange env.isAlnum o.splitter)
    (line : Text) (sw : Nat) (ws : List Word) (h : pipeline env o line sw = some ws) :
    wordsText ws = line ∧ ∀ w ∈ ws, FragOk env.cw w :=
  pipeline_contig env o hr line sw ws h

/-- the built-in splitters are in range (for a `Builtin` hypothesis: `builtin_inRange`) -/
-- @audit TW.C01.builtin_in_range
theorem builtin_in_range (isAlnum : Char → Bool) :
    SplitterInRange isAlnum .none ∧ SplitterInRange isAlnum .hyphen :=
  ⟨builtin_inRange (sp := .none) trivial, builtin_inRange (sp := .hyphen) trivial⟩

/-- the reassembly loop never panics on a partition of contiguous fragments, and yields
    for every group the slice `line[idx .. idx+len]` = the group's text without the last
    fragment's whitespace, which is skipped afterwards -/
-- @audit TW.C01.reassemble_slices
theorem reassemble_slices (o : Opts) (line : Text) (groups : List (List Word)) (n : Nat)
    (h : wordsText groups.flatten = line) :
    reassemble o line groups 0 n = some (specLines o groups 0 n) ∧
    Decomp 0 ((specLines o groups 0 n).zip (groups.map groupGap)) line :=
  ⟨reassemble_eq_spec o line [] groups 0 n (by simp [h]) rfl, h ▸ specLines_decomp o groups 0 n⟩

/-- whenever `wrap` returns, the text decomposes — in order, without overlap — into
    the slices of the returned lines, each followed by a gap that consists of spaces optionally
    followed by one line ending; `start`/`len` of each descriptor are the byte offset and
    length of its slice in the text (`Decomp`). The last clause is the definition of `render`. -/
-- @audit TW.C01.wrap_slices
theorem wrap_slices (env : Env) (mo : MinimaOracle α) (hmo : MoShape mo) (o : Opts)
    (hr : SplitterInRange env.isAlnum o.splitter) (text : Text) (ds : List LineD)
    (h : wrapD env mo o text = some ds) :
    ∃ gaps : List Text, gaps.length = ds.length ∧ Decomp 0 (ds.zip gaps) text ∧
      (∀ g ∈ gaps, GapOK o.lineEnding.str g) ∧
      (∀ d ∈ ds, d.render = d.indent ++ d.slice ++ d.pen) := by
  obtain ⟨gaps, h1, h2, h3⟩ := wrapParas_decomp o.lineEnding.str
    (fun _ _ _ hl => wrapSingleLine_spec hmo hr hl) h
  exact ⟨gaps, h1, joinWith_splitEnding o.lineEnding text ▸ h2, h3, fun d _ => rfl⟩

/-- `Cow` variant: a line is borrowed exactly when it has no indent and no inserted
    penalty (as an equation of `Bool`s); the indent is the initial one for the very first line only.
    The two hypotheses are not used: `wrapD_indent` needs none. -/
-- @audit TW.C01.borrowed_iff
theorem borrowed_iff (env : Env) (mo : MinimaOracle α) (hmo : MoShape mo) (o : Opts)
    (hr : SplitterInRange env.isAlnum o.splitter) (text : Text) (ds : List LineD)
    (h : wrapD env mo o text = some ds) :
    ∀ k (d : LineD), ds[k]? = some d →
      d.indent = (if k = 0 then o.initialIndent else o.subsequentIndent) ∧
      d.borrowed = (d.indent.isEmpty && d.pen.isEmpty) :=
  (wrapD_indent h).2

/-- what `fill`'s shortcut returns, `trimEndSp text`, is a prefix slice of the text whose remainder
    is spaces (that `fill` agrees with `wrap` on that branch is `C09.fill_eq_join`) -/
-- @audit TW.C01.fill_shortcut_slice
theorem fill_shortcut_slice (text : Text) :
    trimEndSp text ++ text.drop (trimEndSp text).length = text ∧
      ∀ c ∈ text.drop (trimEndSp text).length, c = SP :=
  ⟨trimEndSp_append_rest text, trimEndSp_rest_spaces text⟩

/-- off the shortcut `fill` is `wrap`'s lines joined by the line ending, by definition -/
-- @audit TW.C01.fill_slow_eq_join
theorem fill_slow_eq_join (env : Env) (mo : MinimaOracle α) (o : Opts) (text : Text) :
    fillSlow env mo o text = (wrap env mo o text).map (joinWith o.lineEnding.str) := rfl

/-- no slice ends in a space when no fragment's word does and empty words stand only at the beginning
    of the paragraph; the two theorems below supply that for their options -/
theorem wrapSingleLine_noTrail {env : Env} {mo : MinimaOracle α} {o : Opts} {line : Text} {nPrev : Nat}
    {ds : List LineD} (hmo : MoShape mo) (hr : SplitterInRange env.isAlnum o.splitter)
    (h : wrapSingleLine env mo o line nPrev = some ds)
    (hfe : ∀ frs, pipeline env o line (o.width - displayWidth env.cw o.subsequentIndent) = some frs →
      (∀ f ∈ frs, f.word.getLast? ≠ some SP) ∧ EmptyFirst frs) :
    ∀ d ∈ ds, d.slice.getLast? ≠ some SP := by
  intro d hd
  rcases wrapSingleLine_inv h with ⟨_, _, rfl⟩ | h
  · rw [List.mem_singleton.mp hd]
    exact trimEndSp_no_trailing line
  · obtain ⟨frs, G, hp, _, _, hf, rfl⟩ := wrapSingleLineSlow_inv hmo hr h
    obtain ⟨pre, g, post, i, k, rfl, rfl⟩ := specLines_mem_line o G 0 nPrev d hd
    exact groupSlice_noTrail (hfe frs hp).1 (hfe frs hp).2 (a := pre.flatten) (b := post.flatten) (by simp [← hf])

/-- a slice never ends in a space — ASCII separator, built-in splitters, every width,
    `break_words` on or off, both algorithms: words found by the ASCII separator contain no
    space, so neither do their pieces, and an empty word only occurs at the very beginning of a
    paragraph. (With the Unicode separator a force-broken word may itself contain a space —
    the exception the property names.) -/
-- @audit TW.C01.ascii_no_trailing_space
theorem ascii_no_trailing_space (env : Env) (mo : MinimaOracle α) (hmo : MoShape mo) (o : Opts)
    (hsep : o.sep = .ascii) (hb : Builtin o.splitter) (line : Text) (nPrev : Nat) (ds : List LineD)
    (h : wrapSingleLine env mo o line nPrev = some ds) : ∀ d ∈ ds, d.slice.getLast? ≠ some SP :=
  wrapSingleLine_noTrail hmo (builtin_inRange hb) h fun _ hp => pipeline_ends_ascii hsep hb hp

/-- without force-breaking no slice ends in a space, for both separators (built-in
    splitters, both algorithms, every width): the words of `Word::from` are trimmed and the hyphen
    splitter cuts directly after a `'-'`. For the Unicode separator relative to the LB7 clause of
    the external routine (no opportunity directly before a space; validated on every call). -/
-- @audit TW.C01.no_trailing_space_nobreak
theorem no_trailing_space_nobreak (env : Env) (mo : MinimaOracle α) (hmo : MoShape mo) (o : Opts)
    (hb : Builtin o.splitter) (hbw : o.breakWords = false) (line : Text)
    (hc : o.sep = .unicode → OppsNoSpace (stripAnsi line) (env.opps (stripAnsi line)))
    (nPrev : Nat) (ds : List LineD)
    (h : wrapSingleLine env mo o line nPrev = some ds) : ∀ d ∈ ds, d.slice.getLast? ≠ some SP :=
  wrapSingleLine_noTrail hmo (builtin_inRange hb) h fun _ hp => pipeline_ends_nobreak hb hbw hc hp

end

/-- `no_trailing_space_nobreak` with the model's own `linebreaks` on the compiled tables: for the
    Unicode separator no contract is left, the line must only be free of hard-line-break characters -/
-- @audit TW.C01.no_trailing_space_nobreak_ownlb
theorem no_trailing_space_nobreak_ownlb {α : Type} [CostNum α] (env : Env) (henv : env.opps = ownOpps lbTables)
    (mo : MinimaOracle α) (hmo : MoShape mo) (o : Opts)
    (hb : Builtin o.splitter) (hbw : o.breakWords = false) (line : Text)
    (hf : o.sep = .unicode → HardFree (stripAnsi line))
    (nPrev : Nat) (ds : List LineD)
    (h : wrapSingleLine env mo o line nPrev = some ds) : ∀ d ∈ ds, d.slice.getLast? ≠ some SP :=
  no_trailing_space_nobreak env mo hmo o hb hbw line (fun hs => oppsNoSpace_own env henv _ (hf hs)) nPrev ds h

/-! the model on a two-paragraph text with indents (first-fit, `Int`) -/
example :
    let env : Env := { cw := fun _ => 1, isAlnum := fun c => c.isAlphanum, isWs := fun c => c = ' ', opps := fun _ => [] }
    let o : Opts := { width := 6, initialIndent := ['>'], subsequentIndent := [' '], breakWords := true,
                      sep := .ascii, splitter := .hyphen, alg := .firstFit, lineEnding := .lf }
    (wrap (α := Int) env (fun _ _ => []) o "ab cd ef\ngh".toList).map (·.map String.ofList) =
      some [">ab cd", " ef", " gh"] := by decide +kernel

end TW.C01
