/-
  C08 — every output line carries the configured indent.
-/
import Lemmas.WrapText
namespace TW.C08
open C05 (indentOf)

section
variable {α : Type} [CostNum α]

/-- `wrap` returns at least one line; the first line carries `initial_indent` and every later
    line `subsequent_indent` — including lines that come from empty or whitespace-only
    paragraphs — independent of break_words, algorithm, separator and splitter (the two hypotheses
    are not used: `wrapD_indent` needs none) -/
-- @audit TW.C08.wrap_indents
theorem wrap_indents (env : Env) (mo : MinimaOracle α) (hmo : MoShape mo) (o : Opts)
    (hr : SplitterInRange env.isAlnum o.splitter) (text : Text) (ds : List LineD)
    (h : wrapD env mo o text = some ds) :
    ds ≠ [] ∧ ∀ k (d : LineD), ds[k]? = some d →
      d.render = (if k = 0 then o.initialIndent else o.subsequentIndent) ++ d.slice ++ d.pen := by
  refine ⟨wrapD_ne_nil h, fun k d hk => ?_⟩
  rw [LineD.render, ((wrapD_indent h).2 k d hk).1]; rfl

def dropIndent (d : LineD) : LineD := { d with indent := [] }

/-- `o'` is `o` with other indents of the same display widths and the same emptiness -/
structure SameIndentShape (cw : Char → Nat) (o o' : Opts) : Prop where
  eq : o' = { o with initialIndent := o'.initialIndent, subsequentIndent := o'.subsequentIndent }
  wi : displayWidth cw o'.initialIndent = displayWidth cw o.initialIndent
  ws : displayWidth cw o'.subsequentIndent = displayWidth cw o.subsequentIndent
  ei : o'.initialIndent.isEmpty = o.initialIndent.isEmpty
  es : o'.subsequentIndent.isEmpty = o.subsequentIndent.isEmpty

theorem wrapSingleLine_blind (env : Env) (mo : MinimaOracle α) (o : Opts) {i s : Text}
    (wi : displayWidth env.cw i = displayWidth env.cw o.initialIndent)
    (ws : displayWidth env.cw s = displayWidth env.cw o.subsequentIndent)
    (ei : i.isEmpty = o.initialIndent.isEmpty) (es : s.isEmpty = o.subsequentIndent.isEmpty)
    (line : Text) (n : Nat) :
    (wrapSingleLine env mo { o with initialIndent := i, subsequentIndent := s } line n).map (·.map dropIndent) =
      (wrapSingleLine env mo o line n).map (·.map dropIndent) := by
  have he : ∀ k, (indentOf { o with initialIndent := i, subsequentIndent := s } k).isEmpty =
      (indentOf o k).isEmpty
    | 0 => ei
    | _ + 1 => es
  -- the pipeline looks at the initial indent only to see whether it is empty
  exact wrapSingleLine_map_congr dropIndent env mo (by simp only [wrapInput, pipeline, lineWidths, wi, ws, ei, he n])
    fun k idx len sl pen b => by simp [lineWith, dropIndent, he (n + k)]

/-- what follows the indent depends only on the indents' display widths and emptiness, not on
    their characters: two option sets that differ only in such indents give the same lines up
    to the indent field (same slices, offsets, penalties, Cow variants; in particular the same
    number of lines) -/
-- @audit TW.C08.wrap_body_indent_blind
theorem wrap_body_indent_blind (env : Env) (mo : MinimaOracle α) (o o' : Opts)
    (h : SameIndentShape env.cw o o') (text : Text) :
    (wrapD env mo o' text).map (·.map dropIndent) = (wrapD env mo o text).map (·.map dropIndent) := by
  obtain ⟨heq, wi, ws, ei, es⟩ := h
  rw [heq]
  exact wrapParas_map_congr dropIndent shiftD (fun _ _ => rfl)
    fun p _ => wrapSingleLine_blind env mo o wi ws ei es p

end

/-! the model on a text with an empty paragraph in the middle: it gets the subsequent indent -/
example :
    let env : Env := { cw := fun _ => 1, isAlnum := fun c => c.isAlphanum, isWs := fun c => c = ' ', opps := fun _ => [] }
    let o : Opts := { width := 80, initialIndent := [], subsequentIndent := ['|', ' '], breakWords := true,
                      sep := .ascii, splitter := .hyphen, alg := .firstFit, lineEnding := .lf }
    (wrap (α := Int) env (fun _ _ => []) o "foo\n\nbar".toList).map (·.map String.ofList) =
      some ["foo", "| ", "| bar"] := by decide +kernel

end TW.C08
