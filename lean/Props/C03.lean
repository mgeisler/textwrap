/-
  C03 — optimal-fit returns a minimum-cost arrangement under the documented penalties.
  Stated over exact integers (`Int`), which is what the `f64` computation does while every
  intermediate value is an integer below 2^53 (trusted base, DESIGN §5.4).
-/
-- OptimalBridge first. Two instances of `Zero Int` are in scope, `CostNum.toZero` of the model and
-- Mathlib's `MulZeroClass.toZero`, and which one `defaultLw` gets in the statements below
-- (`LwsEquiv`, `optimal_own_le_firstfit`) depends on the order of these imports. Every order
-- compiles, but the statements differ as terms; this order gives them the model's instance.
import Lemmas.OptimalBridge
import Lemmas.OptimalOwn
import Lemmas.OptimalOneLine
namespace TW.C03

open TW.Opt

def segsOf {β : Type} : Nat → List (List β) → List (Nat × Nat)
  | _, [] => []
  | off, l :: r => (off, off + l.length) :: segsOf (off + l.length) r

theorem segsOf_chain {β : Type} (off : Nat) (p : List (List β)) (hne : ∀ l ∈ p, l ≠ []) :
    SegChain off (segsOf off p) (off + p.flatten.length) := by
  induction p generalizing off with
  | nil => exact rfl
  | cons l r ih =>
    refine ⟨rfl, Nat.lt_add_of_pos_right (List.length_pos_iff.mpr (hne l List.mem_cons_self)), ?_⟩
    rw [List.flatten_cons, List.length_append, ← Nat.add_assoc]
    exact ih _ fun x hx => hne x (List.mem_cons_of_mem _ hx)

-- `TW.optimalFit_min` (Lemmas/OptimalBridge.lean; shared with C05): any conforming `minima`
-- yields a minimum-cost arrangement.
-- @audit TW.optimalFit_min

/-- hence its cost never exceeds that of any partition into non-empty lines — in particular
    the first-fit arrangement, for any penalties. (Unlike `optimalFit_min` and `wrapAlg_optimal`,
    the statements of this form — here, `optimal_own`, `optimal_own_le_firstfit`,
    `optimal_own_ext` — do not say `SegChain 0 segs frs.length`, which is what ties `segs`, and
    with it the cost on the left, to the lines returned.) -/
-- @audit TW.C03.optimal_le_partition
theorem optimal_le_partition (pen : Penalties) (lws : List Int) (hl : lws.length ≤ 2) (frs : List IFrag)
    (hn : frs ≠ []) (rows : List Nat) (hmin : IsMinimaRows pen lws frs rows)
    (p : List (List IFrag)) (hflat : p.flatten = frs) (hne : ∀ l ∈ p, l ≠ []) :
    ∃ segs, wrapOptimalFitWith (fun f => f) pen frs lws rows =
        .ok (segs.map fun q => (frs.drop q.1).take (q.2 - q.1)) ∧
      arrCost pen lws frs 0 segs ≤ arrCost pen lws frs 0 (segsOf 0 p) := by
  obtain ⟨segs, h1, _, h3⟩ := TW.optimalFit_min (fun f => f) pen lws hl frs hn rows (by rwa [List.map_id'])
  rw [List.map_id'] at h3
  refine ⟨segs, h1, h3 _ ?_⟩
  simpa [hflat] using segsOf_chain 0 p hne

/-- the hypotheses of the property, for a concrete fragment list -/
structure FragHyp (frs : List IFrag) : Prop where
  nonneg : ∀ f ∈ frs, 0 ≤ f.w ∧ 0 ≤ f.ws ∧ 0 ≤ f.pen
  penNext : ∀ k, k + 1 < frs.length → (frs.getD k fragD).pen ≤ (frs.getD (k + 1) fragD).w

theorem hyp_of_frags (pen : Penalties) (lws : List Int) {frs : List IFrag} (h : FragHyp frs) :
    (instOf pen lws frs).Hyp :=
  instOf_hyp pen lws (getD_all frs fragD h.nonneg ⟨Int.le_refl _, Int.le_refl _, Int.le_refl _⟩) h.penNext

/-- the precondition of `smawk`: under the property's hypotheses the online cost matrix
    is column-wise totally monotone above the diagonal (strict form — exactly what `smawk`
    documents), for any conforming minima -/
-- @audit TW.C03.cost_totally_monotone
theorem cost_totally_monotone (pen : Penalties) (lws : List Int) (hl : lws.length ≤ 2) (frs : List IFrag)
    (hf : FragHyp frs) (rows : List Nat) (hmin : IsMinimaRows pen lws frs rows)
    (i i' j j' : Nat) (h1 : i < i') (h2 : i' < j) (h3 : j < j') (h4 : j' ≤ frs.length) :
    let D := Dv pen lws frs (fun j => rows.getD j 0) frs.length
    let c := (instOf pen lws frs).c
    D i' + c i' j < D i + c i j → D i' + c i' j' < D i + c i j' :=
  Inst.tm_strict (hyp_of_frags pen lws hf) (isColMinima_of_rows hl hmin)
    i i' j j' h1 h2 h3 h4

/-- at the `wrap` level: with `WrapAlgorithm::OptimalFit` (two line widths: first line /
    other lines), whenever the column-minima routine conforms on the paragraph's fragments, the
    groups that get reassembled into lines are a minimum-cost arrangement of those fragments -/
-- @audit TW.C03.wrapAlg_optimal
theorem wrapAlg_optimal (mo : MinimaOracle Int) (p : Penalties) (words : List Word) (a b : Nat)
    (hw : words ≠ [])
    (hmin : IsMinimaRows p [(a : Int), (b : Int)] (words.map fragOf)
      (mo (words.map fragOf) [(a : Int), (b : Int)])) :
    ∃ segs : List (Nat × Nat),
      wrapAlg mo (.optimalFit p) words [a, b] = some (segs.map fun q => (words.drop q.1).take (q.2 - q.1)) ∧
      SegChain 0 segs words.length ∧
      ∀ segs', SegChain 0 segs' words.length →
        arrCost p [(a : Int), (b : Int)] (words.map fragOf) 0 segs ≤
          arrCost p [(a : Int), (b : Int)] (words.map fragOf) 0 segs' := by
  obtain ⟨segs, h1, h2, h3⟩ := TW.optimalFit_min (fragOf (α := Int)) p [(a : Int), (b : Int)] (Nat.le_refl 2) words hw _ hmin
  exact ⟨segs, (wrapAlg_optimalFit_eq_some (lws := [a, b])).mpr h1, h2, h3⟩

/-! ### without the `smawk` contract: the model runs `smawk`'s own algorithm

`TextwrapModel/Smawk.lean` models `smawk::online_column_minima` and `smawk_inner` of smawk
0.3.2 and the closure `wrap_optimal_fit` passes to them. Audited next: `smawk_inner` and
`online_column_minima` return true (left-most) column minima of a matrix that is totally monotone
in the strict form; textwrap's matrix is, under the property's hypotheses; hence the rows the
model's own `smawk` computes conform to the contract. The driver compares these rows with the
rows the real `smawk` returned on every optimal-fit case. -/

-- @audit TW.smawkInner_min
-- @audit TW.onlineColumnMinima_min
-- @audit TW.ocmStep_prefix_stable
-- @audit TW.ownMinima_isMinimaRows
-- @audit TW.wrapOptimalFit_eq_own

/-- optimal-fit returns a minimum-cost arrangement, with no assumption about `smawk`: under the
    property's hypotheses and with at most two line widths, the cost of what the self-contained
    `wrap_optimal_fit` returns is at most that of every partition into non-empty lines, for any
    penalties -/
-- @audit TW.C03.optimal_own
theorem optimal_own (pen : Penalties) (lws : List Int) (hl : lws.length ≤ 2) (frs : List IFrag)
    (hn : frs ≠ []) (hf : FragHyp frs)
    (p : List (List IFrag)) (hflat : p.flatten = frs) (hne : ∀ l ∈ p, l ≠ []) :
    ∃ segs, (wrapOptimalFit (fun f => f) pen frs lws).1 =
        .ok (segs.map fun q => (frs.drop q.1).take (q.2 - q.1)) ∧
      arrCost pen lws frs 0 segs ≤ arrCost pen lws frs 0 (segsOf 0 p) := by
  rw [wrapOptimalFit_eq_own, List.map_id']
  exact optimal_le_partition pen lws hl frs hn _
    (ownMinima_isMinimaRows pen lws hl frs (hyp_of_frags pen lws hf)) p hflat hne

/-- never worse than first-fit, for any penalties (the property's "hence"): the first-fit
    arrangement is one of the partitions into non-empty lines (C06) -/
-- @audit TW.C03.optimal_own_le_firstfit
theorem optimal_own_le_firstfit (pen : Penalties) (lws : List Int) (hl : lws.length ≤ 2) (frs : List IFrag)
    (hn : frs ≠ []) (hf : FragHyp frs) :
    ∃ segs, (wrapOptimalFit (fun f => f) pen frs lws).1 =
        .ok (segs.map fun q => (frs.drop q.1).take (q.2 - q.1)) ∧
      arrCost pen lws frs 0 segs ≤
        arrCost pen lws frs 0 (segsOf 0 (wrapFirstFit (fun (f : IFrag) => f) frs lws)) :=
  optimal_own pen lws hl frs hn hf _ (wrapFirstFit_flatten _ lws frs)
    (wrapFirstFit_nonempty _ lws frs hn)

/-- the same at the `wrap` level: with the built-in splitters (no inserted hyphens) the groups
    reassembled into lines are a minimum-cost arrangement of the paragraph's fragments -/
-- @audit TW.C03.wrapAlg_optimal_own
theorem wrapAlg_optimal_own (p : Penalties) (words : List Word) (a b : Nat) (hw : words ≠ [])
    (hnp : NoPen words) :
    ∃ segs : List (Nat × Nat),
      wrapAlg (ownMinima (α := Int) p) (.optimalFit p) words [a, b] =
        some (segs.map fun q => (words.drop q.1).take (q.2 - q.1)) ∧
      SegChain 0 segs words.length ∧
      ∀ segs', SegChain 0 segs' words.length →
        arrCost p [(a : Int), (b : Int)] (words.map fragOf) 0 segs ≤
          arrCost p [(a : Int), (b : Int)] (words.map fragOf) 0 segs' :=
  wrapAlg_optimal (ownMinima p) p words a b hw
    (ownMinima_isMinimaRows p [(a : Int), (b : Int)] (Nat.le_refl 2) (words.map fragOf) (hyp_words p _ words hnp))

/-! ### the contract is satisfiable: the naive left-most column minima conform -/

theorem dpTable_congr (pen : Penalties) (lws : List Int) (frs : List IFrag) (r r' : Nat → Nat) (m : Nat)
    (h : ∀ k, k ≤ m → r k = r' k) :
    dpTable pen lws frs (prefixWidths frs) r m = dpTable pen lws frs (prefixWidths frs) r' m := by
  induction m with
  | zero => rfl
  | succ m ih =>
    simp only [dpTable]
    rw [ih (fun k hk => h k (Nat.le_succ_of_le hk)), h (m + 1) (Nat.le_refl _)]

/-- the model's naive column minima satisfy the contract, so the hypothesis of
    `optimalFit_min` is satisfiable for every input and the model's `wrapOptimalFitNaive` is an
    executable optimal-fit -/
-- @audit TW.C03.naive_isMinimaRows
theorem naive_isMinimaRows (pen : Penalties) (lws : List Int) (frs : List IFrag) :
    IsMinimaRows pen lws frs (naiveMinima pen lws frs (prefixWidths frs) frs.length).2 := by
  have hshape := naive_rowsShape pen lws frs (prefixWidths frs) frs.length
  refine ⟨hshape, fun i j hij hj => ?_⟩
  obtain ⟨k, rfl⟩ := Nat.exists_eq_add_one.mpr (Nat.zero_lt_of_lt hij)
  have hlt := hshape.2 (k + 1) (Nat.succ_pos k) hj
  have hk := Nat.le_of_succ_le hj
  -- both sides read the table at rows ≤ k, where it is the table of the first `k` columns
  rw [Dv_succ hj (Nat.le_of_lt_succ hlt), cellCost_dpTable (Nat.le_of_lt_succ hlt) hk,
    cellCost_dpTable (Nat.le_of_lt_succ hij) hk, ← naive_table pen lws frs hk,
    naive_row pen lws frs _ hj]
  obtain ⟨r1, r2⟩ := argminFrom_spec
    (fun i => cellCost pen lws frs (prefixWidths frs) (naiveMinima pen lws frs (prefixWidths frs) k).1 i (k + 1))
    k 1 0 _ rfl
  rcases Nat.eq_zero_or_pos i with h0 | h0
  · subst h0; exact r1
  · exact r2 i h0 (Nat.lt_of_lt_of_eq hij (Nat.add_comm k 1))

/-! ### non-vacuity and the hypotheses are used -/

example : (match wrapOptimalFitNaive (fun (f : IFrag) => f) ⟨1000, 2500, 4, 25, 25⟩
      [⟨3, 1, 0⟩, ⟨3, 1, 0⟩, ⟨3, 1, 0⟩, ⟨1, 1, 0⟩] [7] with
    | .ok ls => ls.map List.length
    | _ => []) = [2, 2] := by decide +kernel

example : FragHyp [⟨3, 1, 0⟩, ⟨3, 1, 1⟩, ⟨3, 1, 0⟩] := by
  refine ⟨by decide, fun k (hk : k + 1 < 3) => ?_⟩
  match k, hk with
  | 0, _ => decide
  | 1, _ => decide

/-! ### the hypothesis `lws.length ≤ 2` cannot be dropped: known finding KF-4

"At most two distinct line widths" does not bound the number of entries of the list. With a list
whose width changes again after the second line the cost matrix is not totally monotone, `smawk`'s
rows are not column minima and the arrangement is not a minimum — in the model and, on the same
input, in the real code (`known-findings.txt`, class KF-4; the harness replays it on every run of
the C03 stream). The witness below is checked by the kernel for the costs and by evaluation for the
rows (`smawk_inner` is defined by well-founded recursion, which the kernel does not unfold). -/

def kf4Frs : List IFrag := [⟨1, 1, 0⟩, ⟨11, 1, 1⟩, ⟨1, 1, 0⟩, ⟨11, 1, 0⟩]
def kf4Lws : List Int := [6, 6, 21, 6]
def kf4Pen : Penalties := ⟨0, 4, 3, 1, 3⟩

example : True := trivial
-- the rows the model's own `smawk` returns on the witness: lines `[0,3)`, `[3,4)`
#guard ownMinima (α := Int) kf4Pen kf4Frs kf4Lws == [0, 0, 0, 0, 3]

/-- the arrangement read off those rows costs 56, another one costs 52 -/
-- @audit TW.C03.kf4_witness_costs
theorem kf4_witness_costs :
    arrCost kf4Pen kf4Lws kf4Frs 0 [(0, 3), (3, 4)] = 56 ∧
    arrCost kf4Pen kf4Lws kf4Frs 0 [(0, 1), (1, 2), (2, 4)] = 52 := by decide +kernel

/-! ### every list outside the KF-4 class: the exact dichotomy -/

def LwsEquiv (l1 l2 : List Int) : Prop := ∀ k, l1.getD k (defaultLw l1) = l2.getD k (defaultLw l2)

section
variable (pen : Penalties) {l1 l2 : List Int} (h : LwsEquiv l1 l2)
include h

theorem lineCost_congr : lineCost pen l1 = lineCost pen l2 := by
  funext n Wi Wj last Di ln i j
  unfold lineCost
  rw [h ln]

theorem wrapOptimalFit_congr {β : Type} (m : β → IFrag) (frs : List β) :
    wrapOptimalFit m pen frs l1 = wrapOptimalFit m pen frs l2 := by
  unfold wrapOptimalFit costClosure
  rw [lineCost_congr pen h]

theorem arrCost_congr (frs : List IFrag) (k : Nat) (segs : List (Nat × Nat)) :
    arrCost pen l1 frs k segs = arrCost pen l2 frs k segs := by
  fun_induction arrCost pen l1 frs k segs with
  | case1 => rfl
  | case2 k a b rest ih => rw [arrCost, ← ih, lineCost_congr pen h]
end

/-- the complement of the KF-4 class: from the third entry on every entry equals the second -/
def NotKf4 (lws : List Int) : Prop := ∀ i, 2 ≤ i → i < lws.length → lws.getD i 0 = lws.getD 1 0

-- @audit TW.C03.lwsEquiv_take2
theorem lwsEquiv_take2 (lws : List Int) (h : NotKf4 lws) : LwsEquiv lws (lws.take 2) := by
  intro k
  rcases lws with _ | ⟨a, _ | ⟨b, rest⟩⟩
  · rfl
  · rfl
  have hall : ∀ x ∈ rest, x = b := by
    intro x hx
    obtain ⟨i, hi, rfl⟩ := List.getElem_of_mem hx
    have : rest.getD i 0 = b := h (i + 2) (Nat.le_add_left 2 i) (Nat.add_lt_add_right hi 2)
    rwa [List.getD_eq_getElem?_getD, List.getElem?_eq_getElem hi] at this
  have hlast : defaultLw (a :: b :: rest) = b := by
    rw [defaultLw, List.getLast?_cons_cons, List.getLast?_eq_some_getLast (List.cons_ne_nil b rest)]
    exact (List.mem_cons.mp (List.getLast_mem _)).elim id (hall _)
  rw [hlast, show defaultLw ((a :: b :: rest).take 2) = b from rfl]
  match k with
  | 0 => rfl
  | 1 => rfl
  | k + 2 => exact getD_all rest b hall rfl k

/-- optimal-fit returns a minimum-cost arrangement for every line-width list outside the KF-4
    class: any number of entries, as long as the width does not change again after the second
    line. With `kf4_witness_costs`: the property holds on the complement of the recorded finding
    class and fails inside it. -/
-- @audit TW.C03.optimal_own_ext
theorem optimal_own_ext (pen : Penalties) (lws : List Int) (hk : NotKf4 lws) (frs : List IFrag)
    (hn : frs ≠ []) (hf : FragHyp frs)
    (p : List (List IFrag)) (hflat : p.flatten = frs) (hne : ∀ l ∈ p, l ≠ []) :
    ∃ segs, (wrapOptimalFit (fun f => f) pen frs lws).1 =
        .ok (segs.map fun q => (frs.drop q.1).take (q.2 - q.1)) ∧
      arrCost pen lws frs 0 segs ≤ arrCost pen lws frs 0 (segsOf 0 p) := by
  have he := lwsEquiv_take2 lws hk
  obtain ⟨segs, h1, h2⟩ := optimal_own pen (lws.take 2) (List.length_take_le 2 lws) frs hn hf p hflat hne
  refine ⟨segs, ?_, ?_⟩
  · rw [wrapOptimalFit_congr pen he _ frs]; exact h1
  · rw [arrCost_congr pen he, arrCost_congr pen he]; exact h2

/-- the witness of KF-4 is outside `NotKf4` (so the dichotomy is not vacuous on either side) -/
example : ¬ NotKf4 kf4Lws := fun h => absurd (h 2 (by decide) (by decide)) (by decide)

example : NotKf4 [30, 20, 20, 20] := by
  intro i h2 (hlt : i < 4)
  have : i = 2 ∨ i = 3 := by omega
  rcases this with rfl | rfl <;> rfl

end TW.C03
