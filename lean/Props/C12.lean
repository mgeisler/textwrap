/-
  C12 — splitting and force-breaking words is lossless, bounded and escape-safe.
-/
import Lemmas.BreakIdem
namespace TW.C12

/-! ### split points of the hyphen splitter -/

/-- the split points are exactly the offsets directly after a `'-'` that has an alphanumeric
    character on both sides -/
-- @audit TW.C12.hyphen_points
theorem hyphen_points (isAlnum : Char → Bool) (w : Text) (o : Nat) :
    o ∈ hyphenPoints isAlnum w ↔
      ∃ a x y b, w = a ++ x :: HY :: y :: b ∧ isAlnum x = true ∧ isAlnum y = true ∧
        o = blen (a ++ [x, HY]) :=
  hyphenPoints_mem isAlnum w o

/-- in ascending order -/
-- @audit TW.C12.hyphen_points_sorted
theorem hyphen_points_sorted (isAlnum : Char → Bool) (w : Text) :
    (hyphenPoints isAlnum w).Pairwise (· < ·) := hyphenPoints_sorted isAlnum w

/-! ### `split_words` -/

/-- For split points in the documented range (`< word.len()`), whenever `split_words` returns
    (no slice panics) the pieces satisfy `SplitOK`: cut exactly at the split points, `"-"`
    penalty exactly on a piece that is followed by another and does not already end in `-`,
    original whitespace and penalty on the last piece only, cached widths, nothing lost. -/
-- @audit TW.C12.split_ok
theorem split_ok (cw : Char → Nat) (w : Word) (pts : List Nat) (hlt : ∀ i ∈ pts, i < blen w.word)
    (ps : List Word) (h : splitOne cw w pts 0 = some ps) : SplitOK cw w [] pts ps :=
  splitOne_ok0 hlt h

/-- lossless, as a plain equation -/
-- @audit TW.C12.split_lossless
theorem split_lossless (cw : Char → Nat) (w : Word) (pts : List Nat) (hlt : ∀ i ∈ pts, i < blen w.word)
    (ps : List Word) (h : splitOne cw w pts 0 = some ps) : (ps.map (·.word)).flatten = w.word := by
  obtain ⟨fpre, l, rfl, _, e, _⟩ := splitOK_pieces (split_ok cw w pts hlt ps h) hlt (Or.inr rfl)
  simpa using e

/-- the built-in splitters never panic: the hyphen splitter … -/
-- @audit TW.C12.split_hyphen_total
theorem split_hyphen_total (cw : Char → Nat) (isAlnum : Char → Bool) (w : Word) :
    ∃ ps, splitOne cw w (hyphenPoints isAlnum w.word) 0 = some ps :=
  splitOne_hyphen_total cw isAlnum w

/-- … and `NoHyphenation`, which returns the word with its width computed afresh -/
-- @audit TW.C12.split_none_total
theorem split_none_total (cw : Char → Nat) (w : Word) :
    splitOne cw w [] 0 = some [{ word := w.word, width := displayWidth cw w.word, ws := w.ws, pen := w.pen }] :=
  splitOne_nil cw w

/-- with the hyphen splitter `need_hyphen` is always false: every piece ends in `-`, so no
    piece carries an inserted hyphen (C03 and C05 rely on this) -/
-- @audit TW.C12.hyphen_no_inserted_penalty
theorem hyphen_no_inserted_penalty (cw : Char → Nat) (isAlnum : Char → Bool) (w : Word) (hw : w.pen = [])
    (ps : List Word) (h : splitOne cw w (hyphenPoints isAlnum w.word) 0 = some ps) :
    ∀ p ∈ ps, p.pen = [] := by
  intro p hp
  obtain ⟨_, _, _, _, _, ⟨_, _, hpen⟩ | ⟨_, _, hpen⟩⟩ := splitOne_builtin_mem (sp := .hyphen) trivial h p hp
  · exact hpen
  · rw [hpen, hw]

/-! ### `break_apart` / `break_words` -/

/-- the pieces concatenate to the original word -/
-- @audit TW.C12.break_lossless
theorem break_lossless (cw : Char → Nat) (limit : Nat) (w : Word) :
    ((breakApart cw limit w).map (·.word)).flatten = w.word := breakApart_flatten cw limit w

/-- every piece is non-empty, caches its display width, has width at most the limit unless it
    holds a single non-zero-width character, is maximal (the first character of the following
    piece is visible and would not have fitted), ends in skipper state `normal` when followed by
    another piece (never cut inside an escape sequence); whitespace and penalty are on the last
    piece only -/
-- @audit TW.C12.break_ok
theorem break_ok (cw : Char → Nat) (limit : Nat) (w : Word) :
    BreakOK cw limit w.ws w.pen (breakApart cw limit w) :=
  breakApart_ok cw limit w

/-- words not wider than the limit pass through `break_words` unchanged -/
-- @audit TW.C12.break_words_passthrough
theorem break_words_passthrough (cw : Char → Nat) (limit : Nat) (ws : List Word)
    (h : ∀ w ∈ ws, w.width ≤ limit) : breakWords cw limit ws = ws :=
  breakWords_passthrough cw limit ws h

/-- `break_words` is lossless on the word texts -/
-- @audit TW.C12.break_words_lossless
theorem break_words_lossless (cw : Char → Nat) (limit : Nat) (ws : List Word) :
    ((breakWords cw limit ws).map (·.word)).flatten = (ws.map (·.word)).flatten := by
  refine (breakWords_piecewise cw limit ws).flatten_eq ?_
  rintro w _ ps rfl
  split
  · exact breakApart_flatten cw limit w
  · simp

/-- force-breaking is idempotent: `break_apart` leaves each of its own pieces alone (the run
    that produced a piece made no cut inside it, and a fresh run replays the same states), hence
    `break_words (break_words ws) = break_words ws` for every limit -/
-- @audit TW.C12.break_apart_idempotent
theorem break_apart_idempotent (cw : Char → Nat) (limit : Nat) (w : Word) :
    ∀ p ∈ breakApart cw limit w, breakApart cw limit p = [p] := breakApart_idem cw limit w

-- @audit TW.C12.break_words_idempotent
theorem break_words_idempotent (cw : Char → Nat) (limit : Nat) (ws : List Word) :
    breakWords cw limit (breakWords cw limit ws) = breakWords cw limit ws := breakWords_idem cw limit ws

/-! non-vacuity -/
example : hyphenPoints (fun c => c.isAlphanum) "can-be-split".toList = [4, 7] := by decide +kernel
example : (breakApart (fun _ => 1) 3 ⟨"Hello!".toList, [' ', ' '], [], 6⟩).map (·.word) =
    ["Hel".toList, "lo!".toList] := by decide +kernel

end TW.C12
