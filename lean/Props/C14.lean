/-
  C14 — filling is idempotent.
  Idempotence is reduced to per-line stability (`Stable`: a line of the first result, re-wrapped on
  its own, comes back as itself; `fill_idempotent_of_stable`). A line that fits and does not end in
  a space is stable (`stable_of_fits`, from C05's one-line theorem), which gives idempotence
  whenever the lines of the first result fit (`fill_idempotent_of_fits` and its instances). A
  first-fit line that does not fit is one unbreakable fragment (C02) and is stable too (`Prov`,
  `stable_of_prov`): with the ASCII separator and empty indents `fill` is idempotent at every width
  (`fill_idempotent_ascii_every_width`).
  The `fill_idempotent_*` theorems speak of the lines `ls` of the first result (`hw`) and assume
  empty indents, a built-in splitter, that no line contains a line feed (`hno`) and that the lines
  are safe (`SeqSafe`, see C02); all but the last also that the lines fit the width (`hfit`) and do
  not end in a space (`hts`; a theorem for the ASCII separator, `wrap_lines_bare`).
-/
import Props.C05
import Lemmas.BreakIdem
import Lemmas.FillShape
import Props.C01
import Props.C02
namespace TW.C14

/-- splitting the joined lines at the line ending gives the lines back, when no line contains a
    line feed (`'\n'` ending, and `"\r\n"` ending as well: the only `'\n'`s are the inserted ones,
    each directly preceded by the inserted `'\r'`) -/
-- @audit TW.C14.join_split
theorem join_split (e : LineEnding) (ls : List Text) (hne : ls ≠ []) (hno : ∀ l ∈ ls, LF ∉ l) :
    splitEnding e (joinWith e.str ls) = ls :=
  splitEnding_joinWith e ls hne hno

section
variable {α : Type} [CostNum α]

/-- a line is *stable* under the options: wrapped on its own, as any paragraph of a text, it
    comes back as exactly itself -/
def Stable (env : Env) (mo : MinimaOracle α) (o : Opts) (l : Text) : Prop :=
  ∀ n, (wrapSingleLine env mo o l n).map (·.map LineD.render) = some [l]

/-- if the lines of the first result contain no line feed and each of them is stable, filling the
    result again returns it unchanged -/
-- @audit TW.C14.fill_idempotent_of_stable
theorem fill_idempotent_of_stable (env : Env) (mo : MinimaOracle α) (o : Opts) (t : Text) (ls : List Text)
    (hw : wrap env mo o t = some ls) (hne : ls ≠ [])
    (hno : ∀ l ∈ ls, LF ∉ l) (hs : ∀ l ∈ ls, Stable env mo o l) :
    fill env mo o (joinWith o.lineEnding.str ls) = some (joinWith o.lineEnding.str ls) ∧
    fill env mo o t = some (joinWith o.lineEnding.str ls) := by
  have h1 : fill env mo o t = some (joinWith o.lineEnding.str ls) := by
    rw [fill_eq, hw]; rfl
  refine ⟨?_, h1⟩
  rw [fill_eq, wrap_eq_wrapR, join_split o.lineEnding ls hne hno,
    wrapR_of_lines (fun l => [l]) (fun l hl n => hs l hl n), ← List.flatMap_def,
    List.flatMap_singleton']
  rfl

theorem fill_idempotent_of_all_stable {env : Env} {mo : MinimaOracle α} {o : Opts} {t : Text} {ls : List Text}
    (hw : wrap env mo o t = some ls) (hno : ∀ l ∈ ls, LF ∉ l) (hs : ∀ l ∈ ls, Stable env mo o l) :
    ∃ f, fill env mo o t = some f ∧ fill env mo o f = some f :=
  have ⟨h1, h2⟩ := fill_idempotent_of_stable env mo o t ls hw (wrap_nonempty hw) hno hs
  ⟨_, h2, h1⟩

end

section
variable {env : Env} {mo : MinimaOracle Int} {o : Opts} (hb : Builtin o.splitter)
  (hii : o.initialIndent = []) (hsi : o.subsequentIndent = [])
include hb hii hsi

/-- `hfr`: what `C05.ShortcutContracts.fragments` supplies -/
theorem stable_of_fits (hsp : env.cw SP = 1) {l : Text} (hfit : displayWidth env.cw l ≤ o.width)
    (hts : l.getLast? ≠ some SP)
    (hn : ∀ frs, pipeline env o l (o.width - displayWidth env.cw o.subsequentIndent) = some frs → HNorm frs)
    (hfr : ∃ frs, pipeline env o l (o.width - displayWidth env.cw o.subsequentIndent) = some frs ∧
      LastOk frs ∧ ∀ n : Nat, TW.C05.AlgOk mo o.alg frs (lineWidths env o n)) : Stable env mo o l := by
  obtain ⟨frs, hp, hl, hc⟩ := hfr
  intro n
  have hindent := indentOf_eq_nil o hii hsi n
  rw [TW.C05.wrapSingleLine_one_line hb hp (hc n)
      (by rw [fragSum_of_hnorm hsp hb hp (hn frs hp), hindent]; exact hfit) hl,
    hindent, trimEndSp_id l hts]
  rfl

theorem wrap_lines_bare (hmo : MoShape mo) (hsep : o.sep = .ascii) {t : Text} {ls : List Text}
    (hw : wrap env mo o t = some ls) : ∀ l ∈ ls, l.getLast? ≠ some SP := by
  refine wrap_lines_forall (fun p _ n ds hl d hdm => ?_) hw
  have hslice := TW.C01.ascii_no_trailing_space env mo hmo o hsep hb p n ds hl d hdm
  -- the line is its slice: no indent, no penalty
  suffices d.indent = [] ∧ d.pen = [] by simpa [LineD.render, this.1, this.2] using hslice
  rcases wrapSingleLine_inv hl with ⟨_, _, rfl⟩ | hl
  · rw [List.mem_singleton.mp hdm]; exact ⟨rfl, rfl⟩
  · obtain ⟨hind, hpen⟩ := wrapSingleLineSlow_indent_pen hmo (builtin_inRange hb) hl
      (fun _ hp => pipeline_noPen hb hp) d hdm
    exact ⟨hind.elim (·.trans hii) (·.trans hsi), hpen⟩

/-- the general statement: of each line it takes the fragments with a fine last fragment and what
    the algorithm needs (`C05.AlgOk`) -/
theorem fill_idempotent_of_fits (hsp : env.cw SP = 1) {t : Text} {ls : List Text}
    (hw : wrap env mo o t = some ls)
    (hsafe : ∀ l ∈ ls, SeqSafe o.splitter l) (hno : ∀ l ∈ ls, LF ∉ l)
    (hfit : ∀ l ∈ ls, displayWidth env.cw l ≤ o.width)
    (hts : ∀ l ∈ ls, l.getLast? ≠ some SP)
    (hfr : ∀ l ∈ ls, ∃ frs, pipeline env o l (o.width - displayWidth env.cw o.subsequentIndent) = some frs ∧
      LastOk frs ∧ ∀ n : Nat, TW.C05.AlgOk mo o.alg frs (lineWidths env o n)) :
    ∃ f, fill env mo o t = some f ∧ fill env mo o f = some f :=
  fill_idempotent_of_all_stable hw hno fun l hl =>
    stable_of_fits hb hii hsi hsp (hfit l hl) (hts l hl) (pipeline_hnorm env o hb l (hsafe l hl) _) (hfr l hl)

end

/-- `stable_of_fits` for first-fit, the ASCII separator and ESC-free lines -/
-- @audit TW.C14.stable_of_fits_firstfit
theorem stable_of_fits_firstfit (env : Env) (hsp : env.cw SP = 1) (mo : MinimaOracle Int) (o : Opts)
    (hb : Builtin o.splitter) (halg : o.alg = .firstFit) (hsep : o.sep = .ascii)
    (hii : o.initialIndent = []) (hsi : o.subsequentIndent = [])
    (l : Text) (hesc : ∀ c ∈ l, c ≠ ESC) (hfit : displayWidth env.cw l ≤ o.width)
    (hts : l.getLast? ≠ some SP) : Stable env mo o l :=
  stable_of_fits hb hii hsi hsp hfit hts
    (fun frs hp =>
      have ⟨c1, c2⟩ := pipeline_contig_builtin hb hp
      hnorm_of_escfree frs (fun w hw => (c2 w hw).1) (c1 ▸ hesc))
    ((TW.C05.shortcutContracts_ascii_firstfit hsep halg).fragments hb)

/-- first-fit, ASCII separator, ESC-free lines that fit the width; that no line ends in a space is
    proved, not assumed -/
-- @audit TW.C14.fill_idempotent_firstfit_ascii
theorem fill_idempotent_firstfit_ascii (env : Env) (hsp : env.cw SP = 1) (mo : MinimaOracle Int)
    (hmo : MoShape mo) (o : Opts) (hb : Builtin o.splitter) (halg : o.alg = .firstFit)
    (hsep : o.sep = .ascii) (hii : o.initialIndent = []) (hsi : o.subsequentIndent = [])
    (t : Text) (ls : List Text) (hw : wrap env mo o t = some ls)
    (hesc : ∀ l ∈ ls, ∀ c ∈ l, c ≠ ESC) (hno : ∀ l ∈ ls, LF ∉ l)
    (hfit : ∀ l ∈ ls, displayWidth env.cw l ≤ o.width) :
    ∃ f, fill env mo o t = some f ∧ fill env mo o f = some f :=
  fill_idempotent_of_all_stable hw hno fun l hl =>
    stable_of_fits_firstfit env hsp mo o hb halg hsep hii hsi l (hesc l hl) (hfit l hl)
      (wrap_lines_bare hb hii hsi hmo hsep hw l hl)

/-! ### both separators, coloured text, optimal-fit -/

/-- first-fit, both separators, coloured text; Unicode separator: the external break routine
    answers on the lines (`hpipe`) and obeys the LB7 clause (`hlb`) -/
-- @audit TW.C14.fill_idempotent_firstfit_safe
theorem fill_idempotent_firstfit_safe (env : Env) (hsp : env.cw SP = 1) (mo : MinimaOracle Int)
    (hmo : MoShape mo) (o : Opts) (hb : Builtin o.splitter) (halg : o.alg = .firstFit)
    (hii : o.initialIndent = []) (hsi : o.subsequentIndent = [])
    (t : Text) (ls : List Text) (hw : wrap env mo o t = some ls)
    (hsafe : ∀ l ∈ ls, SeqSafe o.splitter l) (hno : ∀ l ∈ ls, LF ∉ l)
    (hfit : ∀ l ∈ ls, displayWidth env.cw l ≤ o.width)
    (hts : ∀ l ∈ ls, l.getLast? ≠ some SP)
    (hpipe : ∀ l ∈ ls, ∃ frs, pipeline env o l (o.width - displayWidth env.cw o.subsequentIndent) = some frs)
    (hlb : o.sep = .unicode → ∀ l ∈ ls, OppsNoSpace (stripAnsi l) (env.opps (stripAnsi l))) :
    ∃ f, fill env mo o t = some f ∧ fill env mo o f = some f :=
  fill_idempotent_of_fits hb hii hsi hsp hw hsafe hno hfit hts fun l hl =>
    have ⟨frs, hp⟩ := hpipe l hl
    ⟨frs, hp, pipeline_lastOk (builtin_inRange hb) (fun hs => hlb hs l hl) hp,
      fun _ => TW.C05.AlgOk.firstFit halg⟩

/-- `fill_idempotent_firstfit_safe` with the model's own `linebreaks`: the LB7 clause is a theorem
    for lines without hard-line-break characters and the pipeline never panics -/
-- @audit TW.C14.fill_idempotent_firstfit_safe_ownlb
theorem fill_idempotent_firstfit_safe_ownlb (env : Env) (henv : env.opps = ownOpps lbTables)
    (hsp : env.cw SP = 1) (mo : MinimaOracle Int)
    (hmo : MoShape mo) (o : Opts) (hb : Builtin o.splitter) (halg : o.alg = .firstFit)
    (hii : o.initialIndent = []) (hsi : o.subsequentIndent = [])
    (t : Text) (ls : List Text) (hw : wrap env mo o t = some ls)
    (hsafe : ∀ l ∈ ls, SeqSafe o.splitter l) (hno : ∀ l ∈ ls, LF ∉ l)
    (hfit : ∀ l ∈ ls, displayWidth env.cw l ≤ o.width)
    (hts : ∀ l ∈ ls, l.getLast? ≠ some SP)
    (hf : o.sep = .unicode → ∀ l ∈ ls, HardFree (stripAnsi l)) :
    ∃ f, fill env mo o t = some f ∧ fill env mo o f = some f :=
  fill_idempotent_firstfit_safe env hsp mo hmo o hb halg hii hsi t ls hw hsafe hno hfit hts
    (fun l _ => pipeline_total env o hb l _ (fun _ => boundary_own env lbTables henv _))
    (fun hs l hl => oppsNoSpace_own env henv _ (hf hs l hl))

/-- optimal-fit, whenever no line of the first result overflows: any penalties with
    `nline_penalty > 0` (the default's is, `C05.default_nline_pos`), the minima routine conforming
    to its contract on the lines of the first result -/
-- @audit TW.C14.fill_idempotent_optimal_safe
theorem fill_idempotent_optimal_safe (env : Env) (hsp : env.cw SP = 1) (mo : MinimaOracle Int)
    (hmo : MoShape mo) (o : Opts) (hb : Builtin o.splitter) (p : Penalties) (halg : o.alg = .optimalFit p)
    (hP : 0 < p.nline) (hii : o.initialIndent = []) (hsi : o.subsequentIndent = [])
    (t : Text) (ls : List Text) (hw : wrap env mo o t = some ls)
    (hsafe : ∀ l ∈ ls, SeqSafe o.splitter l) (hno : ∀ l ∈ ls, LF ∉ l)
    (hfit : ∀ l ∈ ls, displayWidth env.cw l ≤ o.width)
    (hts : ∀ l ∈ ls, l.getLast? ≠ some SP)
    (hpipe : ∀ l ∈ ls, ∃ frs, pipeline env o l (o.width - displayWidth env.cw o.subsequentIndent) = some frs ∧
      ∀ n, TW.C05.MoConforms mo p frs
        [if n = 0 then o.width - displayWidth env.cw o.initialIndent
         else o.width - displayWidth env.cw o.subsequentIndent,
         o.width - displayWidth env.cw o.subsequentIndent])
    (hlb : o.sep = .unicode → ∀ l ∈ ls, OppsNoSpace (stripAnsi l) (env.opps (stripAnsi l))) :
    ∃ f, fill env mo o t = some f ∧ fill env mo o f = some f :=
  fill_idempotent_of_fits hb hii hsi hsp hw hsafe hno hfit hts fun l hl =>
    have ⟨frs, hp, hconf⟩ := hpipe l hl
    ⟨frs, hp, pipeline_lastOk (builtin_inRange hb) (fun hs => hlb hs l hl) hp,
      fun n => TW.C05.AlgOk.optimal halg hP (hconf n)⟩

/-- optimal-fit, ASCII separator, no assumption about `smawk`: with the model's own `smawk`
    (proved to return column minima of textwrap's cost matrix) the contract hypotheses of
    `fill_idempotent_optimal_safe` are theorems -/
-- @audit TW.C14.fill_idempotent_optimal_own_ascii
theorem fill_idempotent_optimal_own_ascii (env : Env) (hsp : env.cw SP = 1)
    (o : Opts) (hb : Builtin o.splitter) (hsep : o.sep = .ascii) (p : Penalties) (halg : o.alg = .optimalFit p)
    (hP : 0 < p.nline) (hii : o.initialIndent = []) (hsi : o.subsequentIndent = [])
    (t : Text) (ls : List Text) (hw : wrap env (ownMinima (α := Int) p) o t = some ls)
    (hsafe : ∀ l ∈ ls, SeqSafe o.splitter l) (hno : ∀ l ∈ ls, LF ∉ l)
    (hfit : ∀ l ∈ ls, displayWidth env.cw l ≤ o.width)
    (hts : ∀ l ∈ ls, l.getLast? ≠ some SP) :
    ∃ f, fill env (ownMinima (α := Int) p) o t = some f ∧ fill env (ownMinima (α := Int) p) o f = some f :=
  fill_idempotent_of_fits hb hii hsi hsp hw hsafe hno hfit hts fun l _ =>
    (TW.C05.shortcutContracts_own hb (.inr ⟨halg, hP⟩) (p := l)
      fun h => nomatch hsep.symm.trans h).fragments hb

/-- optimal-fit, both separators, no contract of an external crate: with the model's own `smawk`
    and its own `linebreaks` (compiled tables) every contract hypothesis of
    `fill_idempotent_optimal_safe` is a theorem; for the Unicode separator the lines of the first
    result must be free of hard-line-break characters (`HardFree`, where LB7 holds) -/
-- @audit TW.C14.fill_idempotent_optimal_own_all
theorem fill_idempotent_optimal_own_all (env : Env) (henv : env.opps = ownOpps lbTables) (hsp : env.cw SP = 1)
    (o : Opts) (hb : Builtin o.splitter) (p : Penalties) (halg : o.alg = .optimalFit p)
    (hP : 0 < p.nline) (hii : o.initialIndent = []) (hsi : o.subsequentIndent = [])
    (t : Text) (ls : List Text) (hw : wrap env (ownMinima (α := Int) p) o t = some ls)
    (hsafe : ∀ l ∈ ls, SeqSafe o.splitter l) (hno : ∀ l ∈ ls, LF ∉ l)
    (hfit : ∀ l ∈ ls, displayWidth env.cw l ≤ o.width)
    (hts : ∀ l ∈ ls, l.getLast? ≠ some SP)
    (hf : o.sep = .unicode → ∀ l ∈ ls, HardFree (stripAnsi l)) :
    ∃ f, fill env (ownMinima (α := Int) p) o t = some f ∧ fill env (ownMinima (α := Int) p) o f = some f :=
  fill_idempotent_of_fits hb hii hsi hsp hw hsafe hno hfit hts fun l hl =>
    (TW.C05.shortcutContracts_own hb (.inr ⟨halg, hP⟩)
      fun hs => TW.C05.own_lb_contracts henv (hf hs l hl)).fragments hb

/-! ### lines that overflow (ASCII separator, built-in splitters) -/

/-- where an overflowing line of the first result comes from: a single fragment without a space
    and without a split point of the configured splitter which, with `break_words`, is a piece
    of `break_apart` at limit `o.width` (with empty indents that is the limit `break_words` gets) -/
structure Prov (env : Env) (o : Opts) (l : Text) : Prop where
  nosp : SP ∉ l
  ne : l ≠ []
  nopts : o.splitter.points env.isAlnum l = []
  brk : o.breakWords = true → o.width < displayWidth env.cw l →
    ∃ w0 f, f ∈ breakApart env.cw o.width w0 ∧ f.word = l ∧ f.width = displayWidth env.cw l

theorem stable_of_prov (env : Env) (hcw : ∀ c, env.cw c ≤ c.utf8Size) (mo : MinimaOracle Int) (o : Opts)
    (halg : o.alg = .firstFit) (hsep : o.sep = .ascii)
    (hii : o.initialIndent = []) (hsi : o.subsequentIndent = [])
    (l : Text) (hp : Prov env o l) (hover : o.width < displayWidth env.cw l) : Stable env mo o l := by
  intro n
  have hnoshort : ¬ (blen l < o.width ∧ TW.C05.indentOf o n = []) := fun h =>
    absurd (displayWidth_le_blen env.cw hcw l) (Nat.not_le.mpr (Nat.lt_trans h.1 hover))
  -- `break_words` leaves the line alone: a fresh run of `break_apart` replays the one that made it
  have hbreak : o.breakWords = true →
      breakWords env.cw o.width [mkWord env.cw l []] = [mkWord env.cw l []] := fun hbw =>
    breakWords_fixed env.cw o.width _ fun w hw _ => by
      obtain ⟨w0, f, hf, e1, e2⟩ := hp.brk hbw hover
      have := breakApart_piece_alone env.cw o.width w0 f hf [] []
      rw [e1, e2] at this
      rw [List.mem_singleton.mp hw]
      exact this
  -- the fragments of the line: the line itself
  have hpipe : pipeline env o l (o.width - displayWidth env.cw o.subsequentIndent) = some [mkWord env.cw l []] := by
    rw [pipeline_of_stages _ (by rw [hsep, findWords_ascii, findWordsAscii_single env.cw l hp.ne hp.nosp, Word.from_of_noSP env.cw l hp.nosp])
      (splitWords_nopoints env o.splitter [mkWord env.cw l []] (List.forall_mem_singleton.mpr ⟨hp.nopts, rfl⟩)),
      hii, hsi, displayWidth_nil, Nat.sub_zero]
    cases hbw : o.breakWords with
    | false => rfl
    | true => rw [hbreak hbw]; rfl
  rw [wrapSingleLine_long env mo hnoshort,
    wrapSingleLineSlow_of_groups (G := [[mkWord env.cw l []]]) hpipe (by simp [mkWord])
      (by rw [halg, wrapAlg_firstFit, wrapFirstFit_singleton]) (by simp)]
  simp [specLines_cons, indentOf_eq_nil o hii hsi, groupSlice, groupPen, mkWord]

/-- every line of one safe paragraph fits the width or has the provenance of an unbreakable
    fragment (first-fit, ASCII separator): this is also C02's exception clause for `break_words`
    off — the overlong part contains no space (no break opportunity of the ASCII separator) and no
    split point of the splitter -/
-- @audit TW.C14.line_fits_or_prov
theorem line_fits_or_prov (env : Env) (hsp : env.cw SP = 1) (hcw : ∀ c, env.cw c ≤ c.utf8Size)
    (mo : MinimaOracle Int) (o : Opts)
    (halg : o.alg = .firstFit) (hsep : o.sep = .ascii) (hb : Builtin o.splitter)
    (hii : o.initialIndent = []) (hsi : o.subsequentIndent = [])
    (p : Text) (hsafe : SeqSafe o.splitter p) (n : Nat) (ds : List LineD)
    (h : wrapSingleLine env mo o p n = some ds) :
    ∀ d ∈ ds, displayWidth env.cw d.render ≤ o.width ∨ Prov env o d.render := by
  have hind := indentOf_eq_nil o hii hsi
  rcases wrapSingleLine_inv h with ⟨hlt, _, rfl⟩ | h
  · intro d hd
    rw [List.mem_singleton.mp hd, bareLine_render]
    have h2 := congrArg blen (trimEndSp_append_rest p)
    rw [blen_append] at h2
    exact Or.inl (Nat.le_of_lt (Nat.lt_of_le_of_lt
      ((displayWidth_le_blen env.cw hcw (trimEndSp p)).trans (h2 ▸ Nat.le_add_right _ _)) hlt))
  · obtain ⟨frs, hp, -⟩ := Option.bind_eq_some_iff.mp (wrapSingleLineSlow_eq env mo o p n ▸ h)
    obtain ⟨G, g1, g2, g3⟩ := TW.C02.firstfit_fits_or_single hsp mo halg hb n hp
      (pipeline_hnorm env o hb p hsafe _ frs hp)
    obtain rfl := Option.some.inj (g1.symm.trans h)
    intro d hd
    obtain ⟨k, hk⟩ := List.getElem?_of_mem hd
    obtain ⟨g, hg, rfl⟩ := Option.map_eq_some_iff.mp ((specLines_getElem? o G 0 n k).symm.trans hk)
    -- the line is its slice: no indent, no penalty
    rw [specLine_render, hind, List.nil_append, groupPen_eq_nil g fun w hw =>
      pipeline_noPen hb hp w (g2 ▸ List.mem_flatten.mpr ⟨g, List.mem_of_getElem? hg, hw⟩),
      List.append_nil]
    refine (g3 k g hg).imp (fun hfit => by rwa [hind, displayWidth_nil, Nat.sub_zero] at hfit) ?_
    rintro ⟨f, hfm, _, e2, e3⟩
    rw [e2]
    obtain ⟨h1, h2⟩ := pipeline_unbreakable_ascii hsep hb hp f hfm
    refine ⟨h1, e3, h2, fun hbw hover => ?_⟩
    -- an overflowing fragment was not passed through by `break_words`: it is a piece
    have hw := ((pipeline_contig_builtin hb hp).2 f hfm).2
    rw [hsi, displayWidth_nil, Nat.sub_zero] at hp
    obtain ⟨sws, rfl⟩ := pipeline_of_breakWords hbw hp
    rw [if_pos (by simp [hii])] at hfm
    obtain ⟨w0, -, ⟨-, hw0⟩ | ⟨rfl, hle⟩⟩ := mem_breakWords f hfm
    · exact ⟨w0, f, hw0, rfl, hw⟩
    · exact absurd hle (hw ▸ Nat.not_le.mpr hover)

/-- ASCII separator, first-fit, every width, `break_words` on or off: lines that fit are stable by
    C05, lines that overflow are single unbreakable fragments and are found, left unsplit (no
    split point of their own: `splitOne_pointFree`), left unbroken (`breakApart_piece_alone`, the
    replay behind C12's `break_apart_idempotent`) and placed alone again. The paragraphs and the
    lines of the first result are safe (`SeqSafe`; e.g. ESC-free). -/
-- @audit TW.C14.fill_idempotent_ascii_every_width
theorem fill_idempotent_ascii_every_width (env : Env) (hsp : env.cw SP = 1) (hcw : ∀ c, env.cw c ≤ c.utf8Size)
    (mo : MinimaOracle Int) (hmo : MoShape mo) (o : Opts)
    (halg : o.alg = .firstFit) (hsep : o.sep = .ascii) (hb : Builtin o.splitter)
    (hii : o.initialIndent = []) (hsi : o.subsequentIndent = [])
    (t : Text) (ls : List Text) (hw : wrap env mo o t = some ls)
    (hsafeT : ∀ p ∈ splitEnding o.lineEnding t, SeqSafe o.splitter p)
    (hsafeL : ∀ l ∈ ls, SeqSafe o.splitter l) (hno : ∀ l ∈ ls, LF ∉ l) :
    ∃ f, fill env mo o t = some f ∧ fill env mo o f = some f := by
  have hall : ∀ l ∈ ls, displayWidth env.cw l ≤ o.width ∨ Prov env o l :=
    wrap_lines_forall (fun p hp n ds hds =>
      line_fits_or_prov env hsp hcw mo o halg hsep hb hii hsi p (hsafeT p hp) n ds hds) hw
  refine fill_idempotent_of_all_stable hw hno fun l hl => ?_
  by_cases hfit : displayWidth env.cw l ≤ o.width
  · exact stable_of_fits hb hii hsi hsp hfit (wrap_lines_bare hb hii hsi hmo hsep hw l hl)
      (pipeline_hnorm env o hb l (hsafeL l hl) _)
      ((TW.C05.shortcutContracts_ascii_firstfit hsep halg).fragments hb)
  · exact stable_of_prov env hcw mo o halg hsep hii hsi l ((hall l hl).resolve_left hfit) (Nat.lt_of_not_le hfit)

end TW.C14
