/-
  C02 — first-fit lines fit the width unless the line is one unbreakable fragment.
  The `firstfit_*` theorems speak of one paragraph on the general path with `nPrev` lines of output
  before it: `groups` are its lines, and line `k` is measured against the width left by the indent
  it is rendered with, `indentOf o (nPrev + k)`. They assume first-fit, a built-in splitter, `' '`
  one column wide, and H-norm of the fragments (`HNorm`: every fragment boundary in skipper state
  `normal`). H-norm is a theorem for ESC-free lines (`hnorm_of_escfree`) and for safe lines
  (`pipeline_hnorm`; `SeqSafe`: every space, and with the hyphen splitter every hyphen, is met in
  state `normal`, and the line ends in it — e.g. visible characters mixed with well-formed CSI/OSC
  sequences that contain neither). The recorded finding classes KF-1a, KF-1b, KF-2 lie in the
  complement.
-/
import Lemmas.WrapLine
import Lemmas.PipelineBuiltin
import Lemmas.HNormPipeline
import Lemmas.LinebreakTable
namespace TW.C02

open TW.C05 (indentOf)

/-- every line holding two or more fragments fits next to its indent (either separator,
    `break_words` on or off) -/
-- @audit TW.C02.firstfit_line_width
theorem firstfit_line_width (env : Env) (hsp : env.cw SP = 1) (mo : MinimaOracle Int) (o : Opts)
    (hb : Builtin o.splitter) (halg : o.alg = .firstFit) (line : Text) (nPrev : Nat) (frs : List Word)
    (hpipe : pipeline env o line (o.width - displayWidth env.cw o.subsequentIndent) = some frs)
    (hn : HNorm frs) :
    ∃ groups : List (List Word),
      wrapSingleLineSlow env mo o line nPrev = some (specLines o groups 0 nPrev) ∧
      groups.flatten = frs ∧
      ∀ k g, groups[k]? = some g → 2 ≤ g.length →
        displayWidth env.cw (groupSlice g) ≤ o.width - displayWidth env.cw (indentOf o (nPrev + k)) ∧
        Ansi.run .normal (groupSlice g) = .normal := by
  obtain ⟨c1, c2⟩ := pipeline_contig_builtin hb hpipe
  -- `let`, not `set`: `wrapSingleLineSlow_of_groups` is fed `rfl` through `groups`, and
  -- `getD_defaultLw_pair` rewrites `lws.getD k _` seen through `lws`
  let a := o.width - displayWidth env.cw (indentOf o nPrev)
  let b := o.width - displayWidth env.cw o.subsequentIndent
  let lws := List.map (CostNum.ofNat (α := Int)) [a, b]
  let groups := wrapFirstFit (fragOf (α := Int)) frs lws
  have hflat : groups.flatten = frs := wrapFirstFit_flatten _ _ _
  refine ⟨groups, wrapSingleLineSlow_of_groups hpipe c1
    (by rw [halg, lineWidths_eq]; rfl) hflat, hflat, fun k g hk hlen => ?_⟩
  obtain ⟨pre, last, rfl⟩ := (List.eq_nil_or_concat g).resolve_left fun h => by simp [h] at hlen
  rw [List.concat_eq_append] at hk hlen ⊢
  have hgm : pre ++ [last] ∈ groups := List.mem_of_getElem? hk
  have hsub : ∀ w ∈ pre ++ [last], w ∈ frs := fun w hw => hflat ▸ List.mem_flatten.mpr ⟨_, hgm, hw⟩
  have hpre : pre ≠ [] := fun h => by simp [h] at hlen
  obtain ⟨s1, s2⟩ := groupSlice_width hsp (fun w hw => (hnorm_iff frs).mp hn w (hsub w hw))
    (fun w hw => (c2 w (hsub w hw)).2)
  -- the last fragment was not the first of its line, so it fitted; it carries no penalty
  have hfit := (wrapFirstFit_greedy (fragOf (α := Int)) lws frs).line_fits k _ hk
  rw [Nat.zero_add, getD_defaultLw_pair] at hfit
  have hle := le_of_lineFits_fragOf hpre hfit
  rw [pipeline_noPen hb hpipe last (hsub last (by simp)), blen_nil, Nat.add_zero, ← s1] at hle
  refine ⟨?_, s2⟩
  cases k <;> exact hle

/-- the rendered line `indent ++ slice ++ []` (no penalty: built-in splitter) then has display
    width at most the configured width — or its content has display width 0 (an indent that is
    itself wider than the width; DESIGN §9(a)) — for an indent that ends in skipper state `normal` -/
-- @audit TW.C02.render_width
theorem render_width (cw : Char → Nat) (indent slice : Text) (width : Nat)
    (hind : Ansi.run .normal indent = .normal)
    (h : displayWidth cw slice ≤ width - displayWidth cw indent) :
    displayWidth cw (indent ++ slice ++ []) ≤ width ∨ displayWidth cw slice = 0 := by
  rw [List.append_nil, displayWidth_append cw hind]
  omega

/-- `firstfit_line_width` for ESC-free lines -/
-- @audit TW.C02.firstfit_line_width_escfree
theorem firstfit_line_width_escfree (env : Env) (hsp : env.cw SP = 1) (mo : MinimaOracle Int) (o : Opts)
    (hb : Builtin o.splitter) (halg : o.alg = .firstFit) (line : Text) (hesc : ∀ c ∈ line, c ≠ ESC)
    (nPrev : Nat) (frs : List Word)
    (hpipe : pipeline env o line (o.width - displayWidth env.cw o.subsequentIndent) = some frs) :
    ∃ groups : List (List Word),
      wrapSingleLineSlow env mo o line nPrev = some (specLines o groups 0 nPrev) ∧
      groups.flatten = frs ∧
      ∀ k g, groups[k]? = some g → 2 ≤ g.length →
        displayWidth env.cw (groupSlice g) ≤ o.width - displayWidth env.cw (indentOf o (nPrev + k)) ∧
        Ansi.run .normal (groupSlice g) = .normal := by
  obtain ⟨c1, c2⟩ := pipeline_contig_builtin hb hpipe
  exact firstfit_line_width env hsp mo o hb halg line nPrev frs hpipe
    (hnorm_of_escfree frs (fun w hw => (c2 w hw).1) (by rw [c1]; exact hesc))

/-- `firstfit_line_width` for safe lines (coloured text) -/
-- @audit TW.C02.firstfit_line_width_safe
theorem firstfit_line_width_safe (env : Env) (hsp : env.cw SP = 1) (mo : MinimaOracle Int) (o : Opts)
    (hb : Builtin o.splitter) (halg : o.alg = .firstFit) (line : Text) (hsafe : SeqSafe o.splitter line)
    (nPrev : Nat) (frs : List Word)
    (hpipe : pipeline env o line (o.width - displayWidth env.cw o.subsequentIndent) = some frs) :
    ∃ groups : List (List Word),
      wrapSingleLineSlow env mo o line nPrev = some (specLines o groups 0 nPrev) ∧
      groups.flatten = frs ∧
      ∀ k g, groups[k]? = some g → 2 ≤ g.length →
        displayWidth env.cw (groupSlice g) ≤ o.width - displayWidth env.cw (indentOf o (nPrev + k)) ∧
        Ansi.run .normal (groupSlice g) = .normal :=
  firstfit_line_width env hsp mo o hb halg line nPrev frs hpipe
    (pipeline_hnorm env o hb line hsafe _ frs hpipe)

/-! ### every line fits or is one fragment -/

/-- the general statement; the exception theorems below say what the one fragment is -/
theorem firstfit_fits_or_single {env : Env} (hsp : env.cw SP = 1) (mo : MinimaOracle Int) {o : Opts}
    (halg : o.alg = .firstFit) (hb : Builtin o.splitter) {p : Text} (n : Nat) {frs : List Word}
    (hpipe : pipeline env o p (o.width - displayWidth env.cw o.subsequentIndent) = some frs)
    (hn : HNorm frs) :
    ∃ groups : List (List Word),
      wrapSingleLineSlow env mo o p n = some (specLines o groups 0 n) ∧
      groups.flatten = frs ∧
      ∀ k g, groups[k]? = some g →
        displayWidth env.cw (groupSlice g) ≤ o.width - displayWidth env.cw (indentOf o (n + k)) ∨
        ∃ f ∈ frs, g = [f] ∧ groupSlice g = f.word ∧ f.word ≠ [] := by
  obtain ⟨G, g1, g2, g3⟩ := firstfit_line_width env hsp mo o hb halg p n frs hpipe hn
  refine ⟨G, g1, g2, fun k g hk => ?_⟩
  -- a line is empty, one fragment, or two and more, which fit
  rcases g with _ | ⟨f, _ | ⟨f2, r⟩⟩
  · exact .inl (Nat.zero_le _)
  · have hslice : groupSlice [f] = f.word := List.nil_append _
    by_cases hfit : displayWidth env.cw (groupSlice [f]) ≤ o.width - displayWidth env.cw (indentOf o (n + k))
    · exact .inl hfit
    · exact .inr ⟨f, g2 ▸ List.mem_flatten.mpr ⟨[f], List.mem_of_getElem? hk, List.mem_cons_self⟩, rfl, hslice,
        fun he => hfit (by rw [hslice, he]; exact Nat.zero_le _)⟩
  · exact .inl (g3 k _ hk (Nat.le_add_left 2 r.length)).1

/-! ### the exception clause with `break_words` on -/

/-- with `break_words`, every fragment handed to the algorithm is at most as wide as the
    subsequent-line width, or holds a single non-zero-width visible character -/
-- @audit TW.C02.broken_fragment_bound
theorem broken_fragment_bound (cw : Char → Nat) (limit : Nat) (ws : List Word)
    (hw : ∀ w ∈ ws, w.width = displayWidth cw w.word) :
    ∀ f ∈ breakWords cw limit ws, f.width ≤ limit ∨ nzFrom cw .normal f.word = 1 :=
  breakWords_bound cw limit ws

/-- `break_words` on: every line fits next to its indent, or is a single fragment holding at most
    one non-zero-width character — the property's exception; it includes the line that consists of
    the indent alone, when the first word cannot stand next to a non-empty initial indent -/
-- @audit TW.C02.firstfit_every_line_breakwords
theorem firstfit_every_line_breakwords (env : Env) (hsp : env.cw SP = 1) (mo : MinimaOracle Int) (o : Opts)
    (hb : Builtin o.splitter) (halg : o.alg = .firstFit) (hbw : o.breakWords = true)
    (line : Text) (nPrev : Nat) (frs : List Word)
    (hpipe : pipeline env o line (o.width - displayWidth env.cw o.subsequentIndent) = some frs)
    (hn : HNorm frs) :
    ∃ groups : List (List Word),
      wrapSingleLineSlow env mo o line nPrev = some (specLines o groups 0 nPrev) ∧
      groups.flatten = frs ∧
      ∀ k g, groups[k]? = some g →
        displayWidth env.cw (groupSlice g) ≤ o.width - displayWidth env.cw (indentOf o (nPrev + k)) ∨
        ∃ f, g = [f] ∧ nzFrom env.cw .normal f.word ≤ 1 := by
  obtain ⟨groups, h1, h2, h3⟩ := firstfit_fits_or_single hsp mo halg hb nPrev hpipe hn
  refine ⟨groups, h1, h2, fun k g hk => (h3 k g hk).elim Or.inl ?_⟩
  rintro ⟨f, hfm, rfl, hslice, hne⟩
  rw [hslice, ← ((pipeline_contig_builtin hb hpipe).2 f hfm).2]
  obtain ⟨sws, hfrs⟩ := pipeline_of_breakWords hbw hpipe
  -- `f` is not the sentinel: a fragment of `break_words`
  have hbnd : f ∈ breakWords env.cw (o.width - displayWidth env.cw o.subsequentIndent) sws := by
    rw [hfrs] at hfm
    split at hfm
    · exact hfm
    · exact (List.mem_cons.mp hfm).resolve_left fun e => hne (e ▸ rfl)
  rcases breakWords_bound env.cw _ sws f hbnd with hle | hnz
  · -- narrow enough for a subsequent line, so also for the first line without an initial indent
    left
    unfold indentOf
    split
    · next hz =>
      by_cases hi : o.initialIndent = []
      · rw [hi, displayWidth_nil]
        exact Nat.le_trans hle (Nat.sub_le _ _)
      · -- a non-empty initial indent: the first line of the output begins with the sentinel
        obtain ⟨rfl, rfl⟩ := Nat.add_eq_zero_iff.mp hz
        obtain ⟨rest, rfl⟩ := List.head?_eq_some_iff.mp (List.head?_eq_getElem? ▸ hk)
        rw [hfrs, if_neg (by simpa using hi)] at h2
        exact absurd ((List.cons.inj h2).1 ▸ rfl) hne
    · exact hle
  · exact Or.inr ⟨f, rfl, Nat.le_of_eq hnz⟩

/-- `firstfit_every_line_breakwords` for safe lines -/
-- @audit TW.C02.firstfit_every_line_breakwords_safe
theorem firstfit_every_line_breakwords_safe (env : Env) (hsp : env.cw SP = 1) (mo : MinimaOracle Int) (o : Opts)
    (hb : Builtin o.splitter) (halg : o.alg = .firstFit) (hbw : o.breakWords = true)
    (line : Text) (hsafe : SeqSafe o.splitter line) (nPrev : Nat) (frs : List Word)
    (hpipe : pipeline env o line (o.width - displayWidth env.cw o.subsequentIndent) = some frs) :
    ∃ groups : List (List Word),
      wrapSingleLineSlow env mo o line nPrev = some (specLines o groups 0 nPrev) ∧
      groups.flatten = frs ∧
      ∀ k g, groups[k]? = some g →
        displayWidth env.cw (groupSlice g) ≤ o.width - displayWidth env.cw (indentOf o (nPrev + k)) ∨
        ∃ f, g = [f] ∧ nzFrom env.cw .normal f.word ≤ 1 :=
  firstfit_every_line_breakwords env hsp mo o hb halg hbw line nPrev frs hpipe
    (pipeline_hnorm env o hb line hsafe _ frs hpipe)

/-! through the whole model: later paragraphs are measured against the subsequent indent -/
example :
    let env : Env := { cw := fun _ => 1, isAlnum := fun c => c.isAlphanum, isWs := fun c => c = ' ', opps := fun _ => [] }
    let o : Opts := { width := 6, initialIndent := [], subsequentIndent := "    ".toList, breakWords := true,
                      sep := .ascii, splitter := .hyphen, alg := .firstFit, lineEnding := .lf }
    (wrap (α := Int) env (fun _ _ => []) o "a\nbb cc dd".toList).map (·.map String.ofList) =
      some ["a", "    bb", "    cc", "    dd"] := by decide +kernel

/-! ### the exception clause with `break_words` off -/

theorem points_sub (isAlnum : Char → Bool) (sp : Splitter) (hb : Builtin sp) (pre u post : Text)
    (h : sp.points isAlnum (pre ++ u ++ post) = []) : sp.points isAlnum u = [] :=
  builtin_points_part isAlnum sp hb pre u post h

/-- `break_words` off, ASCII separator, safe lines: every line fits next to its indent, or the part
    after the indent is one fragment that contains no space (no break opportunity of the ASCII
    separator) and no split point of the configured splitter — the property's exception clause -/
-- @audit TW.C02.firstfit_nobreak_exception_ascii
theorem firstfit_nobreak_exception_ascii (env : Env) (hsp : env.cw SP = 1) (mo : MinimaOracle Int) (o : Opts)
    (halg : o.alg = .firstFit) (hsep : o.sep = .ascii) (hb : Builtin o.splitter) (hbw : o.breakWords = false)
    (p : Text) (hsafe : SeqSafe o.splitter p) (n : Nat) (frs : List Word)
    (hpipe : pipeline env o p (o.width - displayWidth env.cw o.subsequentIndent) = some frs) :
    ∃ groups : List (List Word),
      wrapSingleLineSlow env mo o p n = some (specLines o groups 0 n) ∧
      groups.flatten = frs ∧
      ∀ k g, groups[k]? = some g →
        displayWidth env.cw (groupSlice g) ≤ o.width - displayWidth env.cw (indentOf o (n + k)) ∨
        (∃ f, g = [f] ∧ groupSlice g = f.word ∧ SP ∉ f.word ∧ f.word ≠ [] ∧
          o.splitter.points env.isAlnum f.word = []) := by
  obtain ⟨G, g1, g2, g3⟩ := firstfit_fits_or_single hsp mo halg hb n hpipe
    (pipeline_hnorm env o hb p hsafe _ frs hpipe)
  refine ⟨G, g1, g2, fun k g hk => (g3 k g hk).imp id ?_⟩
  rintro ⟨f, hfm, e1, e2, e3⟩
  obtain ⟨h1, h2⟩ := pipeline_unbreakable_ascii hsep hb hpipe f hfm
  exact ⟨f, e1, e2, h1, e3, h2⟩

/-- `break_words` off, Unicode separator, safe lines: every line fits next to its indent, or the
    part after the indent is one fragment without a split point of the configured splitter which
    is a contiguous part of one word of the separator. By `C11.unicode_no_inner_opportunity` such a
    word contains no break opportunity of the separator (relative to the opportunities
    `unicode_linebreak` returned), so the fragment is unbreakable in the property's sense. -/
-- @audit TW.C02.firstfit_nobreak_exception_unicode
theorem firstfit_nobreak_exception_unicode (env : Env) (hsp : env.cw SP = 1) (mo : MinimaOracle Int) (o : Opts)
    (halg : o.alg = .firstFit) (hsep : o.sep = .unicode) (hb : Builtin o.splitter) (hbw : o.breakWords = false)
    (p : Text) (hsafe : SeqSafe o.splitter p) (n : Nat) (frs : List Word)
    (hpipe : pipeline env o p (o.width - displayWidth env.cw o.subsequentIndent) = some frs) :
    ∃ groups : List (List Word),
      wrapSingleLineSlow env mo o p n = some (specLines o groups 0 n) ∧
      groups.flatten = frs ∧
      ∀ k g, groups[k]? = some g →
        displayWidth env.cw (groupSlice g) ≤ o.width - displayWidth env.cw (indentOf o (n + k)) ∨
        (∃ f, g = [f] ∧ groupSlice g = f.word ∧ f.word ≠ [] ∧
          o.splitter.points env.isAlnum f.word = [] ∧
          ∃ ws, findWordsUnicode env p = some ws ∧ ∃ w ∈ ws, ∃ A B, w.word = A ++ f.word ++ B) := by
  obtain ⟨G, g1, g2, g3⟩ := firstfit_fits_or_single hsp mo halg hb n hpipe
    (pipeline_hnorm env o hb p hsafe _ frs hpipe)
  refine ⟨G, g1, g2, fun k g hk => (g3 k g hk).imp id ?_⟩
  rintro ⟨f, hfm, e1, e2, e3⟩
  -- with `break_words` off the fragments are the pieces of the words
  obtain ⟨ws, sws, hws, hsw, rfl⟩ := pipeline_stages hpipe
  rw [hsep] at hws
  simp only [hbw, Bool.false_eq_true, if_false] at hfm
  obtain ⟨⟨w, hw, A', B', ew⟩, hpts⟩ := splitWords_pieces hb hsw f hfm
  exact ⟨f, e1, e2, e3, hpts, ws, hws, w, hw, A', B', ew⟩

/-- the same with the opportunity routine inside the model: the pipeline never panics
    (`ownOpps_boundary`, any tables), and "no break opportunity inside a word"
    (`C11.unicode_separator_ownlb`) needs no contract -/
-- @audit TW.C02.firstfit_nobreak_exception_unicode_ownlb
theorem firstfit_nobreak_exception_unicode_ownlb (env : Env) (T : LbTables) (henv : env.opps = ownOpps T)
    (hsp : env.cw SP = 1) (mo : MinimaOracle Int) (o : Opts)
    (halg : o.alg = .firstFit) (hsep : o.sep = .unicode) (hb : Builtin o.splitter) (hbw : o.breakWords = false)
    (p : Text) (hsafe : SeqSafe o.splitter p) (n : Nat) :
    ∃ frs, pipeline env o p (o.width - displayWidth env.cw o.subsequentIndent) = some frs ∧
    ∃ groups : List (List Word),
      wrapSingleLineSlow env mo o p n = some (specLines o groups 0 n) ∧
      groups.flatten = frs ∧
      ∀ k g, groups[k]? = some g →
        displayWidth env.cw (groupSlice g) ≤ o.width - displayWidth env.cw (indentOf o (n + k)) ∨
        (∃ f, g = [f] ∧ groupSlice g = f.word ∧ f.word ≠ [] ∧
          o.splitter.points env.isAlnum f.word = [] ∧
          ∃ ws, findWordsUnicode env p = some ws ∧ ∃ w ∈ ws, ∃ A B, w.word = A ++ f.word ++ B) := by
  obtain ⟨frs, hpipe⟩ := pipeline_total env o hb p (o.width - displayWidth env.cw o.subsequentIndent)
    (fun _ => boundary_own env T henv _)
  exact ⟨frs, hpipe, firstfit_nobreak_exception_unicode env hsp mo o halg hsep hb hbw p hsafe n frs hpipe⟩

end TW.C02
