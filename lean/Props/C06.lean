/-
  C06 — both line-breaking algorithms return an ordered partition of the fragments.
  First-fit: for any number type whatsoever (no order or arithmetic laws, so IEEE doubles with
  NaN/±∞/rounding are covered). Optimal-fit, for any number type: with the model's own `smawk`
  for every input; with rows given from outside, for any rows satisfying the shape part of the
  `smawk` contract (`rows[0] = 0`, `rows[j] < j`).
-/
import Lemmas.FirstFit
import Lemmas.SmawkClosure
namespace TW.C06

section FirstFit
variable {α : Type} [Add α] [LT α] [Zero α] [DecidableRel (α := α) (· < ·)] {β : Type}

/-- concatenating the lines gives back the fragments, in order -/
-- @audit TW.C06.firstFit_flatten
theorem firstFit_flatten (m : β → Frag α) (frs : List β) (lws : List α) :
    (wrapFirstFit m frs lws).flatten = frs :=
  wrapFirstFit_flatten m lws frs

/-- every line is a non-empty run (for a non-empty input) -/
-- @audit TW.C06.firstFit_nonempty
theorem firstFit_nonempty (m : β → Frag α) (frs : List β) (lws : List α) (h : frs ≠ []) :
    ∀ l ∈ wrapFirstFit m frs lws, l ≠ [] :=
  wrapFirstFit_nonempty m lws frs h

/-- an empty input yields exactly one empty line -/
-- @audit TW.C06.firstFit_empty
theorem firstFit_empty (m : β → Frag α) (lws : List α) : wrapFirstFit m ([] : List β) lws = [[]] :=
  wrapFirstFit_nil m lws

end FirstFit

section OptimalFit
variable {α : Type} [CostNum α] {β : Type}

-- `RowsShape`, `optimalFit_partition`: Lemmas/OptimalShape.lean
-- @audit TW.optimalFit_partition

/-- the model's naive column minima satisfy the shape contract -/
-- @audit TW.C06.naive_shape
theorem naive_shape (pen : Penalties) (lws : List α) (frs : List (Frag α)) (W : List α) (n : Nat) :
    RowsShape (naiveMinima pen lws frs W n).2 n :=
  naive_rowsShape pen lws frs W n

/-- hence the model's optimal-fit with the naive minima always yields a partition -/
-- @audit TW.C06.optimalFitNaive_partition
theorem optimalFitNaive_partition (m : β → Frag α) (pen : Penalties) (frs : List β) (lws : List α) :
    wrapOptimalFitNaive m pen frs lws = .overflow ∨
    ∃ lines, wrapOptimalFitNaive m pen frs lws = .ok lines ∧ lines.flatten = frs ∧
      (frs ≠ [] → ∀ l ∈ lines, l ≠ []) ∧ (frs = [] → lines = [[]]) := by
  unfold wrapOptimalFitNaive
  apply TW.optimalFit_partition
  simpa using naive_shape pen lws (frs.map m) (prefixWidths (frs.map m)) frs.length

end OptimalFit

/-! ### optimal-fit with `smawk`'s own algorithm inside the model (no contract)

`wrapOptimalFit` (TextwrapModel/Smawk.lean) runs the model of `smawk::online_column_minima` on
the model of the cost closure; for any number type and any inputs (so for a matrix that is not
monotone at all) both return normally with rows that point to earlier columns; hence: -/

-- @audit TW.wrapOptimalFit_partition
-- @audit TW.ownMinima_rowsShape

/-- for IEEE doubles in particular: negative, fractional, huge, infinite and NaN widths -/
-- @audit TW.C06.optimalFit_partition_float
theorem optimalFit_partition_float (pen : Penalties) (frs : List (Frag Float)) (lws : List Float) :
    (wrapOptimalFit (fun f => f) pen frs lws).1 = .overflow ∨
    ∃ lines, (wrapOptimalFit (fun f => f) pen frs lws).1 = .ok lines ∧ lines.flatten = frs ∧
      (frs ≠ [] → ∀ l ∈ lines, l ≠ []) ∧ (frs = [] → lines = [[]]) :=
  wrapOptimalFit_partition _ pen frs lws

/-! non-vacuity, on integers -/
-- (a test, not a theorem: `smawk_inner` recurses by well-founded recursion, which the kernel does not unfold)
#guard (wrapOptimalFit (fun (f : Frag Int) => f) ⟨1000, 2500, 4, 25, 25⟩
    [⟨3, 1, 0⟩, ⟨3, 1, 0⟩, ⟨3, 1, 0⟩] [7]).2 == [0, 0, 0, 2]
example : (wrapFirstFit (fun (f : Frag Int) => f) [⟨3, 1, 0⟩, ⟨3, 1, 0⟩, ⟨3, 1, 0⟩] [7]).map List.length = [2, 1] := by
  decide
example : RowsShape [0, 0, 1, 1] 3 := by
  refine ⟨rfl, ?_⟩
  intro j h1 h2
  have : j = 1 ∨ j = 2 ∨ j = 3 := by omega
  rcases this with rfl | rfl | rfl <;> decide

end TW.C06
