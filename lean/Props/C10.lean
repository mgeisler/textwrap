/-
  C10 — display_width is the sum of character widths outside ANSI sequences. The token grammar
  the statements speak of (`Seg`, `Seg.ok`, `renderSegs`, `visibleSegs`) is in `Lemmas/Ansi.lean`.
-/
import Lemmas.Ansi
import TextwrapModel.Tables
namespace TW.C10

/-! ### table obligations (re-checked against the regenerated tables on every run) -/

-- @audit TW.C10.table_unicode_ok
theorem table_unicode_ok : okRuns Gen.widthRunsUnicode = true :=
  -- through the recursor form, which the kernel evaluates at two thirds of the cost on the 989 runs
  (okRuns_iff _).mpr (allRec_spec (p := fun (r : Nat × Nat) => r.2.ble (utf8SizeNat r.1)) (by decide +kernel))

-- @audit TW.C10.table_crude_ok
theorem table_crude_ok : okRuns Gen.widthRunsCrude = true := by decide +kernel

/-- every scalar value: the column width never exceeds the UTF-8 length (unicode-width tables) -/
-- @audit TW.C10.cwUnicode_le_utf8
theorem cwUnicode_le_utf8 (c : Char) : cwUnicode c ≤ c.utf8Size := by
  rw [utf8Size_eq]
  exact lookupRuns_le _ table_unicode_ok _ _ (Nat.zero_le _)

-- @audit TW.C10.cwCrude_le_utf8
theorem cwCrude_le_utf8 (c : Char) : cwCrude c ≤ c.utf8Size := by
  rw [utf8Size_eq]
  exact lookupRuns_le _ table_crude_ok _ _ (Nat.zero_le _)

/-- without the unicode-width feature: 1 below U+1100, else 2 -/
-- @audit TW.C10.crude_rule
theorem crude_rule (c : Char) : cwCrude c = if c.toNat < 0x1100 then 1 else 2 := by
  unfold cwCrude
  have h : Gen.widthRunsCrude = [(0, 1), (4352, 2)] := by decide +kernel
  -- the first run starts at 0, so the default is never returned
  rw [h, lookupRuns, if_neg (Nat.not_lt_zero _), lookupRuns, lookupRuns]

/-- spot obligations on the unicode-width table -/
-- @audit TW.C10.control_zero
theorem control_zero : cwUnicode ESC = 0 ∧ cwUnicode LF = 0 ∧ cwUnicode BEL = 0 ∧ cwUnicode ' ' = 1 ∧ cwUnicode '-' = 1 := by
  decide +kernel

/-- for every text whatsoever, display_width never exceeds the byte length -/
-- @audit TW.C10.dw_le_blen
theorem dw_le_blen (cw : Char → Nat) (h : ∀ c, cw c ≤ c.utf8Size) (t : Text) :
    displayWidth cw t ≤ blen t := displayWidth_le_blen cw h t

-- @audit TW.C10.dw_le_blen_unicode
theorem dw_le_blen_unicode (t : Text) : displayWidth cwUnicode t ≤ blen t :=
  dw_le_blen _ cwUnicode_le_utf8 t

-- @audit TW.C10.dw_le_blen_crude
theorem dw_le_blen_crude (t : Text) : displayWidth cwCrude t ≤ blen t :=
  dw_le_blen _ cwCrude_le_utf8 t

/-- the main clause: on well-formed text (a list of tokens, `Seg`) the display width is the sum of
    the char widths of the visible chars -/
-- @audit TW.C10.dw_render
theorem dw_render (cw : Char → Nat) (segs : List Seg) (h : ∀ g ∈ segs, g.ok = true) :
    displayWidth cw (renderSegs segs) = ((visibleSegs segs).map cw).sum := by
  rw [displayWidth, dwFrom_eq_sum_strip, ← stripAnsi, (segs_run segs h).1]

/-- well-formed text: stripping the sequences gives exactly the visible chars -/
-- @audit TW.C10.strip_render
theorem strip_render (segs : List Seg) (h : ∀ g ∈ segs, g.ok = true) :
    stripAnsi (renderSegs segs) = visibleSegs segs :=
  (segs_run segs h).1

/-- additive over concatenation of ESC-free strings (only the left one needs to be ESC-free) -/
-- @audit TW.C10.dw_append_escfree
theorem dw_append_escfree (cw : Char → Nat) (a b : Text) (h : ∀ c ∈ a, c ≠ ESC) :
    displayWidth cw (a ++ b) = displayWidth cw a + displayWidth cw b :=
  displayWidth_append cw (run_normal_escfree a h) b

/-- ESC-free text: plain sum of the char widths -/
-- @audit TW.C10.dw_escfree
theorem dw_escfree (cw : Char → Nat) (t : Text) (h : ∀ c ∈ t, c ≠ ESC) :
    displayWidth cw t = (t.map cw).sum := dwFrom_normal_escfree cw t h

/-- unchanged by inserting a well-formed sequence at a token boundary of well-formed text -/
-- @audit TW.C10.dw_insert_wellformed
theorem dw_insert_wellformed (cw : Char → Nat) (a b : List Seg) (g : Seg)
    (ha : ∀ x ∈ a, x.ok = true) (hb : ∀ x ∈ b, x.ok = true) (hg : g.ok = true) (hv : g.visible = []) :
    displayWidth cw (renderSegs (a ++ g :: b)) = displayWidth cw (renderSegs (a ++ b)) := by
  rw [dw_render cw _ (List.forall_mem_append.mpr ⟨ha, List.forall_mem_cons.mpr ⟨hg, hb⟩⟩),
    dw_render cw _ (List.forall_mem_append.mpr ⟨ha, hb⟩)]
  simp [visibleSegs, hv]

/-! ### non-vacuity: the hypotheses are satisfiable by non-trivial text -/

example : (Seg.csi ['3', '1'] 'm').ok = true ∧ (Seg.osc ['8', ';', ';', 'h'] .st).ok = true ∧
    (Seg.ch 'x').ok = true := by decide

example : displayWidth cwUnicode (renderSegs [.csi ['3', '1'] 'm', .ch 'C', .ch 'é', .osc ['0'] .bel]) = 2 := by
  decide +kernel

end TW.C10
