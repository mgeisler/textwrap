/-
  C16 — refill equals filling the original paragraph at the new width.
  `refill_fill`: relative to an `unfill` result given as hypothesis; `refill_of_fill`: with the shape
  of `wrap`'s lines (`C15.wrap_shape`) and `unfill` on such lines (`unfill_joined`) discharging it.
-/
import Props.C15
namespace TW.C16

section
variable {α : Type} [CostNum α]

/-- refill.rs:169-188, relative to what `unfill` returns (`hu`; C15's round trip supplies it):
    `refill` is `fill` with the recovered indents, followed by `o₂`'s line ending exactly when the
    filled text ended in the detected one. The width at which the input had been filled enters
    only through `hu`, which does not mention it. -/
-- @audit TW.C16.refill_fill
theorem refill_fill (env : Env) (mo : MinimaOracle α) (o2 : Opts) (filled p ii si : Text) (w : Nat)
    (le1 : LineEnding) (trailing : Bool) (hp : LF ∉ p)
    (hu : unfill env.cw filled = some (Unfilled.mk (p ++ (if trailing then le1.str else [])) w ii si le1)) :
    refill env mo o2 filled =
      (fill env mo { o2 with initialIndent := ii, subsequentIndent := si } p).map
        (· ++ (if trailing then o2.lineEnding.str else [])) := by
  unfold refill
  simp only [hu]
  cases trailing with
  | true =>
    simp only [if_true, stripSuffix?_append, Option.getD_some, Option.isSome_some]
    cases fill env mo { o2 with initialIndent := ii, subsequentIndent := si } p <;> rfl
  | false =>
    simp only [Bool.false_eq_true, if_false, List.append_nil, Option.getD_none, Option.isSome_none,
      stripSuffix?_none le1.str_getLast fun h => hp (List.mem_of_getLast? h)]
    cases fill env mo { o2 with initialIndent := ii, subsequentIndent := si } p <;> simp

/-- all four line-ending conversions: the new ending is `o₂`'s, whatever the detected one was -/
-- @audit TW.C16.refill_ending
theorem refill_ending (env : Env) (mo : MinimaOracle α) (o2 : Opts) (filled p ii si : Text) (w : Nat)
    (le1 : LineEnding) (hp : LF ∉ p) (r : Text)
    (hu : unfill env.cw filled = some (Unfilled.mk (p ++ le1.str) w ii si le1))
    (hr : refill env mo o2 filled = some r) : endsWith r o2.lineEnding.str = true := by
  rw [refill_fill env mo o2 filled p ii si w le1 true hp (by simpa using hu)] at hr
  obtain ⟨f, -, rfl⟩ := Option.map_eq_some_iff.mp hr
  exact endsWith_append_self f _

/-- `refill(fill(t, o₁), o₂) = fill(t, o₂ with o₁'s indents)` for `t` and `o₁` as in
    `C15.unfill_fill`, whenever the filled form has at least two lines (so that both indents are
    observable); `o₂` is arbitrary. A trailing line ending is preserved and converted to `o₂`'s. -/
-- @audit TW.C16.refill_of_fill
theorem refill_of_fill (env : Env) (mo : MinimaOracle α) (hmo : MoShape mo) (o1 o2 : Opts)
    (hsep : o1.sep = .ascii) (hbw : o1.breakWords = false)
    (hii : o1.initialIndent.all isPrefixChar = true) (hsi : o1.subsequentIndent.all isPrefixChar = true)
    (ws : List Text) (hne : ws ≠ []) (hws : ∀ w ∈ ws, WordOk w)
    (hpts : ∀ w ∈ ws, o1.splitter.points env.isAlnum w = [])
    (filled : Text) (hf : fill env mo o1 (joinWith [SP] ws) = some filled)
    (ls : List Text) (hw : wrap env mo o1 (joinWith [SP] ws) = some ls) (h2 : 2 ≤ ls.length) :
    refill env mo o2 filled =
      fill env mo { o2 with initialIndent := o1.initialIndent, subsequentIndent := o1.subsequentIndent }
        (joinWith [SP] ws) ∧
    refill env mo o2 (filled ++ o1.lineEnding.str) =
      (fill env mo { o2 with initialIndent := o1.initialIndent, subsequentIndent := o1.subsequentIndent }
        (joinWith [SP] ws)).map (· ++ o2.lineEnding.str) := by
  rw [fill_eq, hw] at hf
  obtain rfl : joinWith o1.lineEnding.str ls = filled := Option.some.inj hf
  obtain ⟨s0, ss, rfl, b0, bs, ej⟩ := C15.wrap_shape env mo hmo o1 hsep hbw ws hne hws hpts ls hw
  have hss : ss ≠ [] := fun h => by simp [h] at h2
  have key := fun tl => refill_fill env mo o2 _ _ _ _ _ _ tl (joinWith_SP_noBreak ws hws).1
    (by simpa [hss, ej] using unfill_joined env.cw o1.lineEnding tl hii hsi b0 bs)
  exact ⟨by simpa using key false, by simpa using key true⟩

/-- consequently the result of `refill` does not depend on the width (or algorithm) at which
    its input had been filled -/
-- @audit TW.C16.refill_width_independent
theorem refill_width_independent (env : Env) (mo : MinimaOracle α) (hmo : MoShape mo) (o1 o1' o2 : Opts)
    (hind : o1'.initialIndent = o1.initialIndent ∧ o1'.subsequentIndent = o1.subsequentIndent)
    (hsep : o1.sep = .ascii) (hbw : o1.breakWords = false) (hsep' : o1'.sep = .ascii) (hbw' : o1'.breakWords = false)
    (hii : o1.initialIndent.all isPrefixChar = true) (hsi : o1.subsequentIndent.all isPrefixChar = true)
    (ws : List Text) (hne : ws ≠ []) (hws : ∀ w ∈ ws, WordOk w)
    (hpts : ∀ w ∈ ws, o1.splitter.points env.isAlnum w = [])
    (hpts' : ∀ w ∈ ws, o1'.splitter.points env.isAlnum w = [])
    (f f' : Text) (hf : fill env mo o1 (joinWith [SP] ws) = some f)
    (hf' : fill env mo o1' (joinWith [SP] ws) = some f')
    (ls ls' : List Text) (hw : wrap env mo o1 (joinWith [SP] ws) = some ls) (h2 : 2 ≤ ls.length)
    (hw' : wrap env mo o1' (joinWith [SP] ws) = some ls') (h2' : 2 ≤ ls'.length) :
    refill env mo o2 f = refill env mo o2 f' := by
  rw [(refill_of_fill env mo hmo o1 o2 hsep hbw hii hsi ws hne hws hpts f hf ls hw h2).1,
    (refill_of_fill env mo hmo o1' o2 hsep' hbw' (by rw [hind.1]; exact hii) (by rw [hind.2]; exact hsi)
      ws hne hws hpts' f' hf' ls' hw' h2').1, hind.1, hind.2]

end
end TW.C16
