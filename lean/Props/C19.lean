/-
  C19 — indent prefixes every line and preserves line structure.
-/
import TextwrapModel.Indent
import Lemmas.Std
namespace TW.C19

def lineImage (isWs : Char → Bool) (pre : Text) (l : Text) : Text :=
  (if l.all isWs then trimEndBy isWs pre else pre) ++ l

theorem indentLines_succ (isWs : Char → Bool) (pre tp : Text) (ls : List Text) (k : Nat) :
    indentLines isWs pre tp ls (k + 1) =
      (ls.map fun l => [LF] ++ ((if l.all isWs then tp else pre) ++ l)).flatten := by
  induction ls generalizing k with
  | nil => rfl
  | cons l rest ih =>
    simp only [indentLines, Nat.add_one_ne_zero, if_false, ih, List.map_cons, List.flatten_cons, List.append_assoc]

/-- the output is the images of the `split_terminator('\n')` pieces joined by
    `'\n'`, plus the final newline iff the input had one: every line containing a
    non-whitespace char becomes `p ++ line`, every other line `trim_end(p) ++ line`. -/
-- @audit TW.C19.indent_spec
theorem indent_spec (isWs : Char → Bool) (s pre : Text) :
    indent isWs s pre =
      joinWith [LF] ((splitTerminatorLF s).map (lineImage isWs pre)) ++
        (if s.getLast? = some LF then [LF] else []) := by
  unfold indent
  congr 1
  cases h : splitTerminatorLF s with
  | nil => simp [indentLines]
  | cons l rest =>
    simp only [indentLines, List.map_cons, joinWith_eq_flatten, indentLines_succ, lineImage,
      if_true, List.nil_append, List.map_map, List.append_assoc]
    rfl

/-- `indent_spec`'s list of line images has one element per `split_terminator('\n')` piece -/
-- @audit TW.C19.indent_line_count
theorem indent_line_count (isWs : Char → Bool) (s pre : Text) :
    ((splitTerminatorLF s).map (lineImage isWs pre)).length = (splitTerminatorLF s).length := by
  simp

/-- `indent(s, "") = s` -/
-- @audit TW.C19.indent_empty_prefix
theorem indent_empty_prefix (isWs : Char → Bool) (s : Text) : indent isWs s [] = s := by
  have hf : lineImage isWs [] = id := by funext l; simp [lineImage, trimEndBy]
  rw [indent_spec, hf, List.map_id, joinWith_splitTerminatorLF]

-- @audit TW.C19.lineImage_no_LF
theorem lineImage_no_LF (isWs : Char → Bool) (pre l : Text) (hp : LF ∉ pre) (hl : LF ∉ l) :
    LF ∉ lineImage isWs pre l := by
  unfold lineImage
  intro h
  rcases List.mem_append.mp h with h | h
  · split at h
    · exact hp (trimEndBy_subset isWs pre _ h)
    · exact hp h
  · exact hl h

/-- same newline structure: for a prefix without `'\n'`, every line image is `'\n'`-free; with
    `indent_spec` the `'\n'` of the output are then the joining ones, as many as in the input -/
-- @audit TW.C19.indent_lines_LF_free
theorem indent_lines_LF_free (isWs : Char → Bool) (s pre : Text) (hp : LF ∉ pre) :
    ∀ l ∈ (splitTerminatorLF s).map (lineImage isWs pre), LF ∉ l :=
  List.forall_mem_map.mpr fun l hl => lineImage_no_LF isWs pre l hp (splitTerminatorLF_no_LF s l hl)

example : indent (fun c => c = ' ') ['a', LF, LF, ' ', 'b', LF] ['>', ' '] =
    ['>', ' ', 'a', LF, '>', LF, '>', ' ', ' ', 'b', LF] := by decide +kernel

end TW.C19
