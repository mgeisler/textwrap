/-
  The back-tracking loop of `wrap_optimal_fit` (optimal_fit.rs:386-398) and the shape part of the
  `smawk` contract (`RowsShape`): on rows of that shape back-tracking never fails and yields an
  ordered partition; over `Int`, where no cost is infinite, there is no overflow error either.
  The model's naive column minima (any number type) have the shape; that over `Int` they are
  minima is `C03.naive_isMinimaRows`.
-/
import TextwrapModel.Num
import Lemmas.ListAux
namespace TW

def SegChain : Nat → List (Nat × Nat) → Nat → Prop
  | s, [], e => s = e
  | s, (a, b) :: rest, e => a = s ∧ a < b ∧ SegChain b rest e

theorem SegChain.length_le {s e : Nat} {segs : List (Nat × Nat)} (h : SegChain s segs e) :
    segs.length + s ≤ e := by
  fun_induction SegChain s segs e with
  | case1 s e => exact Nat.le_of_eq ((Nat.zero_add s).trans h)
  | case2 s a b rest e ih =>
    obtain ⟨rfl, h2, h3⟩ := h
    exact Nat.le_trans (Nat.le_of_eq (Nat.add_right_comm _ 1 a))
      (Nat.le_trans (Nat.add_le_add_left h2 _) (ih h3))

theorem SegChain.le {s e : Nat} {segs : List (Nat × Nat)} (h : SegChain s segs e) : s ≤ e :=
  Nat.le_trans (Nat.le_add_left _ _) h.length_le

theorem SegChain.eq_single {s e : Nat} {segs : List (Nat × Nat)} (h : SegChain s segs e) (hlt : s < e)
    (hlen : segs.length ≤ 1) : segs = [(s, e)] := by
  cases segs with
  | nil => exact absurd h (Nat.ne_of_lt hlt)
  | cons p rest =>
    obtain rfl : rest = [] := List.eq_nil_of_length_eq_zero (Nat.le_zero.mp (Nat.le_of_succ_le_succ hlen))
    obtain ⟨rfl, _, rfl⟩ : p.1 = s ∧ p.1 < p.2 ∧ p.2 = e := h
    rfl

theorem SegChain.append {s mid e : Nat} {xs : List (Nat × Nat)} (h : SegChain s xs mid) (hlt : mid < e) :
    SegChain s (xs ++ [(mid, e)]) e := by
  fun_induction SegChain s xs mid with
  | case1 s mid => exact ⟨h.symm, hlt, rfl⟩
  | case2 s a b rest mid ih => exact ⟨h.1, h.2.1, ih h.2.2 hlt⟩

theorem SegChain.bounds {s e : Nat} {segs : List (Nat × Nat)} (h : SegChain s segs e) :
    ∀ p ∈ segs, p.1 < p.2 ∧ p.2 ≤ e := by
  fun_induction SegChain s segs e with
  | case1 => exact fun _ hp => nomatch hp
  | case2 s a b rest e ih =>
    intro p hp
    rcases List.mem_cons.mp hp with rfl | hp
    · exact ⟨h.2.1, h.2.2.le⟩
    · exact ih h.2.2 p hp

theorem backtrackGo_spec {r : Nat → Nat} {n : Nat} (hr : ∀ j, 1 ≤ j → j ≤ n → r j < j) :
    ∀ fuel pos, 1 ≤ pos → pos ≤ n → pos ≤ fuel →
      ∃ segs, backtrackGo r fuel pos = some segs ∧ SegChain 0 segs.reverse pos ∧
        ∀ p ∈ segs, p.1 = r p.2 := by
  intro fuel
  induction fuel with
  | zero => intro pos h1 _ h3; exact absurd h1 (Nat.not_lt.mpr h3)
  | succ fuel ih =>
    intro pos h1 h2 h3
    have hlt := hr pos h1 h2
    rw [backtrackGo, if_neg (Nat.not_lt.mpr (Nat.le_of_lt hlt))]
    by_cases h0 : r pos = 0
    · rw [if_pos h0]
      exact ⟨_, rfl, ⟨h0, hlt, rfl⟩, fun p hp => by rw [List.mem_singleton.mp hp]⟩
    · obtain ⟨segs, hs, hc, hrow⟩ := ih (r pos) (Nat.pos_of_ne_zero h0) (Nat.le_trans (Nat.le_of_lt hlt) h2)
        (Nat.le_of_lt_succ (Nat.lt_of_lt_of_le hlt h3))
      rw [if_neg h0, hs]
      refine ⟨_, rfl, List.reverse_cons .. ▸ hc.append hlt, fun p hp => ?_⟩
      rcases List.mem_cons.mp hp with rfl | hp
      · rfl
      · exact hrow p hp

theorem backtrackGo_ne_nil (r : Nat → Nat) (fuel pos : Nat) (segs : List (Nat × Nat))
    (h : backtrackGo r fuel pos = some segs) : segs ≠ [] := by
  fun_induction backtrackGo r fuel pos with
  | case1 => cases h
  | case2 => cases h
  | case3 => exact Option.some.inj h ▸ List.cons_ne_nil _ _
  | case4 => exact Option.some.inj h ▸ List.cons_ne_nil _ _
  | case5 => cases h

theorem segs_flatten {β : Type} (l : List β) {s e : Nat} {segs : List (Nat × Nat)}
    (h : SegChain s segs e) :
    (segs.map fun p => (l.drop p.1).take (p.2 - p.1)).flatten = (l.drop s).take (e - s) := by
  fun_induction SegChain s segs e with
  | case1 s e => rw [h, Nat.sub_self]; rfl
  | case2 s a b rest e ih =>
    obtain ⟨rfl, h2, h3⟩ := h
    rw [List.map_cons, List.flatten_cons, ih h3]
    exact take_drop_split l a b e (Nat.le_of_lt h2) h3.le

theorem take_drop_ne_nil {β : Type} (l : List β) {a b : Nat} (hab : a < b) (hb : b ≤ l.length) :
    (l.drop a).take (b - a) ≠ [] := by
  apply List.ne_nil_of_length_pos
  rw [List.length_take, List.length_drop]
  exact Nat.lt_min.mpr ⟨Nat.sub_pos_of_lt hab, Nat.sub_pos_of_lt (Nat.lt_of_lt_of_le hab hb)⟩

theorem backtrack_partition {β : Type} (frs : List β) (r : Nat → Nat) (h0 : r 0 = 0)
    (hr : ∀ j, 1 ≤ j → j ≤ frs.length → r j < j) :
    ∃ segs, backtrackGo r (frs.length + 1) frs.length = some segs ∧
      let lines := segs.reverse.map fun (a, b) => (frs.drop a).take (b - a)
      lines.flatten = frs ∧ (frs ≠ [] → ∀ l ∈ lines, l ≠ []) ∧ (frs = [] → lines = [[]]) := by
  by_cases hn : frs.length = 0
  · obtain rfl : frs = [] := List.eq_nil_of_length_eq_zero hn
    exact ⟨[(0, 0)], by rw [List.length_nil, backtrackGo, h0]; rfl, rfl, fun h => absurd rfl h, fun _ => rfl⟩
  · obtain ⟨segs, h1, h2, _⟩ := backtrackGo_spec hr (frs.length + 1) frs.length (Nat.pos_of_ne_zero hn)
      (Nat.le_refl _) (Nat.le_succ _)
    refine ⟨segs, h1, ?_, fun _ l hl => ?_, fun hf => absurd (congrArg List.length hf) hn⟩
    · exact (segs_flatten frs h2).trans List.take_length
    · obtain ⟨⟨a, b⟩, hp, rfl⟩ := List.mem_map.mp hl
      have hb := h2.bounds _ hp
      exact take_drop_ne_nil frs hb.1 hb.2

section OptimalFit
variable {α : Type} [CostNum α] {β : Type}

/-- the shape part of the `smawk` contract. There is no clause on the length: back-tracking reads
    `rows` through `getD · 0`, and a missing entry reads as row 0, which has the shape — so `[]`
    conforms for every `n` (back-tracking then yields the single line of all fragments). -/
def RowsShape (rows : List Nat) (n : Nat) : Prop :=
  rows.getD 0 0 = 0 ∧ ∀ j, 1 ≤ j → j ≤ n → rows.getD j 0 < j

/-- C06 for optimal-fit with rows given from outside: `wrap_optimal_fit` never panics on conforming
    rows; it returns an overflow error or an ordered partition into non-empty runs (`[[]]` for no
    fragments) -/
theorem optimalFit_partition (m : β → Frag α) (pen : Penalties) (frs : List β) (lws : List α)
    (rows : List Nat) (hs : RowsShape rows frs.length) :
    wrapOptimalFitWith m pen frs lws rows = .overflow ∨
    ∃ lines, wrapOptimalFitWith m pen frs lws rows = .ok lines ∧ lines.flatten = frs ∧
      (frs ≠ [] → ∀ l ∈ lines, l ≠ []) ∧ (frs = [] → lines = [[]]) := by
  unfold wrapOptimalFitWith
  simp only
  split
  · exact Or.inl rfl
  · obtain ⟨segs, e, h⟩ := backtrack_partition frs (fun j => rows.getD j 0) hs.1 hs.2
    rw [e]
    exact Or.inr ⟨_, rfl, h⟩

theorem wrapOptimalFitWith_ne_nil (m : β → Frag α) (pen : Penalties) (frs : List β) (lws : List α)
    (rows : List Nat) (lines : List (List β)) (h : wrapOptimalFitWith m pen frs lws rows = .ok lines) :
    lines ≠ [] := by
  unfold wrapOptimalFitWith at h
  simp only at h
  split at h
  · cases h
  · split at h
    · cases h
    · next segs hs =>
      cases h
      exact fun he => backtrackGo_ne_nil _ _ _ segs hs (List.reverse_eq_nil_iff.mp (List.map_eq_nil_iff.mp he))

/-! ### the model's naive column minima -/

theorem argminFrom_lt (cost : Nat → α) (fuel i best : Nat) (bv : α) {m : Nat} (hb : best < m)
    (hi : i + fuel ≤ m) : argminFrom cost fuel i best bv < m := by
  fun_induction argminFrom cost fuel i best bv with
  | case1 => exact hb
  | case2 fuel i best bv v hlt ih =>
    exact ih (Nat.lt_of_lt_of_le (Nat.lt_add_of_pos_right (Nat.succ_pos fuel)) hi)
      (Nat.le_trans (Nat.le_of_eq (Nat.add_right_comm i 1 fuel)) hi)
  | case3 fuel i best bv v hlt ih =>
    exact ih hb (Nat.le_trans (Nat.le_of_eq (Nat.add_right_comm i 1 fuel)) hi)

variable (pen : Penalties) (lws : List α) (frs : List (Frag α)) (W : List α)

theorem naive_rows_length (n : Nat) :
    (naiveMinima pen lws frs W n).2.length = n + 1 := by
  induction n with
  | zero => rfl
  | succ n ih => simp only [naiveMinima]; rw [List.length_append, ih, List.length_singleton]

theorem naive_row_zero (n : Nat) :
    (naiveMinima pen lws frs W n).2.getD 0 0 = 0 := by
  induction n with
  | zero => rfl
  | succ n ih =>
    simp only [naiveMinima]
    rw [getD_append_left _ _ _ _ (by rw [naive_rows_length]; exact Nat.succ_pos n), ih]

/-- later columns only append -/
theorem naive_row {n j : Nat} (hj : j + 1 ≤ n) :
    (naiveMinima pen lws frs W n).2.getD (j + 1) 0 =
      argminFrom (fun i => cellCost pen lws frs W (naiveMinima pen lws frs W j).1 i (j + 1)) j 1 0
        (cellCost pen lws frs W (naiveMinima pen lws frs W j).1 0 (j + 1)) := by
  induction hj with
  | refl =>
    simp only [naiveMinima]
    rw [getD_append_right _ _ _ _ (Nat.le_of_eq (naive_rows_length ..)), naive_rows_length, Nat.sub_self]
    rfl
  | @step n hj ih =>
    simp only [naiveMinima]
    rw [getD_append_left _ _ _ _ (by rw [naive_rows_length]; exact Nat.lt_succ_of_le hj)]
    exact ih

theorem naive_rowsShape (n : Nat) :
    RowsShape (naiveMinima pen lws frs W n).2 n := by
  refine ⟨naive_row_zero pen lws frs W n, fun j h1 hj => ?_⟩
  obtain ⟨k, rfl⟩ := Nat.exists_eq_add_one.mpr h1
  rw [naive_row pen lws frs W hj]
  exact argminFrom_lt _ k 1 0 _ (Nat.succ_pos k) (Nat.le_of_eq (Nat.add_comm 1 k))

end OptimalFit

theorem any_isInf_int {γ : Type} (l : List γ) (g : γ → Int) : (l.any fun e => CostNum.isInf (g e)) = false :=
  List.any_eq_false.mpr fun _ _ => by simp [CostNum.isInf]

theorem optimalFit_partition_int {β : Type} (m : β → Frag Int) (pen : Penalties) (frs : List β) (lws : List Int)
    (rows : List Nat) (hs : RowsShape rows frs.length) :
    ∃ lines, wrapOptimalFitWith m pen frs lws rows = .ok lines ∧ lines.flatten = frs ∧
      (frs ≠ [] → ∀ l ∈ lines, l ≠ []) ∧ (frs = [] → lines = [[]]) := by
  rcases optimalFit_partition m pen frs lws rows hs with ho | h
  · unfold wrapOptimalFitWith at ho
    simp only [any_isInf_int, Bool.false_eq_true, if_false] at ho
    split at ho <;> cases ho
  · exact h

end TW
