/-
  Bridge from the executable model of `wrap_optimal_fit` (tables over `Int`) to the abstract
  instance of Lemmas/OptimalCore.lean (`instOf`, `lineCost_eq`), and the optimality of the
  back-tracked arrangement for every `minima` that conforms to the column-minima contract
  (`IsMinimaRows`, `optimalFit_min`). Last, the model's naive column minima over `Int` (their
  shape, for any number type, is in Lemmas/OptimalShape.lean).
-/
import Lemmas.OptimalCore
import Lemmas.OptimalShape
namespace TW

open TW.Opt

abbrev IFrag := Frag Int

/-- the fragment read past the end of a list: the default of `cellCost`'s `getD` -/
def fragD : IFrag := ⟨0, 0, 0⟩

theorem fragD_eq : (⟨0, 0, 0⟩ : IFrag) = fragD := rfl

/-- `short` is filled in by `instOf`, from `x`, `W` and `t` of this instance -/
def instBase (pen : Penalties) (lws : List Int) (frs : List IFrag) : Inst :=
  { n := frs.length
    w := fun k => (frs.getD k fragD).w
    ws := fun k => (frs.getD k fragD).ws
    pen := fun k => (frs.getD k fragD).pen
    T0 := CostNum.max1 (lws.getD 0 (defaultLw lws))
    T1 := CostNum.max1 (lws.getD 1 (defaultLw lws))
    P := pen.nline
    O := pen.overflow
    S := pen.shortPen
    H := pen.hyphen
    short := fun _ => false }

def instOf (pen : Penalties) (lws : List Int) (frs : List IFrag) : Inst :=
  let b := instBase pen lws frs
  { b with short := fun i => CostNum.shortLine (b.x b.n - b.W i) (b.t i) pen.shortFrac }

section
variable (pen : Penalties) (lws : List Int)

theorem instOf_W (frs : List IFrag) (k : Nat) : (instOf pen lws frs).W k = (instBase pen lws frs).W k := by
  induction k with
  | zero => rfl
  | succ k ih => simp only [Inst.W, ih]; rfl

theorem instOf_n (frs : List IFrag) : (instOf pen lws frs).n = frs.length := rfl
theorem instOf_short (frs : List IFrag) (i : Nat) : (instOf pen lws frs).short i =
    CostNum.shortLine ((instOf pen lws frs).x frs.length - (instOf pen lws frs).W i) ((instOf pen lws frs).t i) pen.shortFrac := by
  simp only [Inst.x, instOf_W]; rfl

theorem instOf_hyp {frs : List IFrag}
    (nn : ∀ k, 0 ≤ (frs.getD k fragD).w ∧ 0 ≤ (frs.getD k fragD).ws ∧ 0 ≤ (frs.getD k fragD).pen)
    (pn : ∀ k, k + 1 < frs.length → (frs.getD k fragD).pen ≤ (frs.getD (k + 1) fragD).w) :
    (instOf pen lws frs).Hyp :=
  ⟨fun k => (nn k).1, fun k => (nn k).2.1, fun k => (nn k).2.2, pn,
    Int.natCast_nonneg _, Int.natCast_nonneg _, Int.natCast_nonneg _, Int.natCast_nonneg _⟩

theorem W_cons (f : IFrag) (fs : List IFrag) (k : Nat) :
    (instBase pen lws (f :: fs)).W (k + 1) = f.w + f.ws + (instBase pen lws fs).W k := by
  induction k with
  | zero => show (0 : Int) + f.w + f.ws = f.w + f.ws + 0; rw [Int.zero_add, Int.add_zero]
  | succ k ih => rw [Inst.W, ih, Inst.W]; simp only [instBase, List.getD_cons_succ, Int.add_assoc]

theorem prefixWidths_go_getD (acc : Int) {l : List IFrag} {k : Nat} (hk : k < l.length) :
    (prefixWidths.go acc l).getD k 0 = acc + (instBase pen lws l).W (k + 1) := by
  induction l generalizing acc k with
  | nil => exact absurd hk (Nat.not_lt_zero _)
  | cons f fs ih =>
    cases k with
    | zero => show acc + (f.w + f.ws) = acc + ((0 : Int) + f.w + f.ws); rw [Int.zero_add]
    | succ k =>
      simp only [prefixWidths.go, List.getD_cons_succ]
      rw [ih _ (Nat.lt_of_succ_lt_succ hk), W_cons, Int.add_assoc]

theorem prefixWidths_getD {frs : List IFrag} {k : Nat} (hk : k ≤ frs.length) :
    (prefixWidths frs).getD k 0 = (instOf pen lws frs).W k := by
  rw [instOf_W]
  cases k with
  | zero => rfl
  | succ k =>
    simp only [prefixWidths, List.getD_cons_succ]
    rw [prefixWidths_go_getD pen lws 0 hk, Int.zero_add]
end

theorem max1_eq (x : Int) : CostNum.max1 x = max 1 x := (max_def 1 x).symm

/-- at the last entry and past the end a line has the last width -/
theorem getD_defaultLw {lws : List Int} {k : Nat} (h : lws.length ≤ k + 1) :
    lws.getD k (defaultLw lws) = defaultLw lws := by
  rw [List.getD_eq_getElem?_getD]
  rcases Nat.lt_or_ge k lws.length with hk | hk
  · rw [defaultLw, List.getLast?_eq_getElem?, Nat.sub_eq_of_eq_add (Nat.le_antisymm h hk), List.getElem?_eq_getElem hk]
    rfl
  · rw [List.getElem?_eq_none hk]
    rfl

theorem lws_getD_two {lws : List Int} (h : lws.length ≤ 2) {k : Nat} (hk : 1 ≤ k) :
    lws.getD k (defaultLw lws) = lws.getD 1 (defaultLw lws) :=
  (getD_defaultLw (Nat.le_trans h (Nat.succ_le_succ hk))).trans (getD_defaultLw h).symm

/-! ### the table rebuilt from the rows -/

section Table
variable (pen : Penalties) (lws : List Int) (frs : List IFrag) (r : Nat → Nat)

/-- optimal cost of breaking before fragment `j`, as the table has it -/
def Dv (n j : Nat) : Int := ((dpTable pen lws frs (prefixWidths frs) r n).getD j (0, 0)).1

variable {pen lws frs r} {W : List Int}

theorem dpTable_length (m : Nat) : (dpTable pen lws frs W r m).length = m + 1 := by
  induction m with
  | zero => rfl
  | succ m ih => rw [dpTable, List.length_append, ih, List.length_singleton]

/-- later columns only append: rows up to `k` stay as the table of the first `k` columns has them -/
theorem dpTable_prefix {i k n : Nat} (hi : i ≤ k) (hk : k ≤ n) (d : Int × Nat) :
    (dpTable pen lws frs W r n).getD i d = (dpTable pen lws frs W r k).getD i d := by
  induction hk with
  | refl => rfl
  | @step n hk ih =>
    rw [← ih, dpTable, getD_append_left _ _ _ _ (by rw [dpTable_length]; exact Nat.lt_succ_of_le (Nat.le_trans hi hk))]

theorem cellCost_congr {t1 t2 : List (Int × Nat)} {i : Nat} (j : Nat) (h : t1.getD i (0, 0) = t2.getD i (0, 0)) :
    cellCost pen lws frs W t1 i j = cellCost pen lws frs W t2 i j := by
  simp only [cellCost, h]

theorem cellCost_dpTable {i k n : Nat} (hi : i ≤ k) (hk : k ≤ n) (j : Nat) :
    cellCost pen lws frs W (dpTable pen lws frs W r n) i j =
      cellCost pen lws frs W (dpTable pen lws frs W r k) i j :=
  cellCost_congr j (dpTable_prefix hi hk _)

theorem dpTable_zero (n : Nat) (d : Int × Nat) : (dpTable pen lws frs W r n).getD 0 d = (0, 0) :=
  dpTable_prefix (Nat.le_refl 0) (Nat.zero_le n) d

theorem dpTable_succ {n j : Nat} (hj : j + 1 ≤ n) (hr : r (j + 1) ≤ j) :
    (dpTable pen lws frs W r n).getD (j + 1) (0, 0) =
      (cellCost pen lws frs W (dpTable pen lws frs W r n) (r (j + 1)) (j + 1),
        ((dpTable pen lws frs W r n).getD (r (j + 1)) (0, 0)).2 + 1) := by
  have hjn := Nat.le_of_succ_le hj
  rw [dpTable_prefix (Nat.le_refl _) hj, dpTable, getD_append_right _ _ _ _ (Nat.le_of_eq (dpTable_length j)),
    dpTable_length, Nat.sub_self, List.getD_cons_zero, cellCost_dpTable hr hjn, dpTable_prefix hr hjn]

theorem dpTable_ln_zero_iff {n i : Nat} (hr : ∀ j, 1 ≤ j → j ≤ n → r j < j) (hi : i ≤ n) :
    ((dpTable pen lws frs W r n).getD i (0, 0)).2 = 0 ↔ i = 0 := by
  rcases Nat.eq_zero_or_pos i with rfl | h1
  · rw [dpTable_zero]
  · obtain ⟨k, rfl⟩ := Nat.exists_eq_add_one.mpr h1
    rw [dpTable_succ hi (Nat.le_of_lt_succ (hr (k + 1) h1 hi))]
    exact ⟨fun h => absurd h (Nat.succ_ne_zero _), fun h => absurd h (Nat.succ_ne_zero _)⟩

theorem Dv_zero (n : Nat) : Dv pen lws frs r n 0 = 0 := congrArg Prod.fst (dpTable_zero n _)

theorem Dv_succ {n j : Nat} (hj : j + 1 ≤ n) (hr : r (j + 1) ≤ j) :
    Dv pen lws frs r n (j + 1) =
      cellCost pen lws frs (prefixWidths frs) (dpTable pen lws frs (prefixWidths frs) r n) (r (j + 1)) (j + 1) :=
  congrArg Prod.fst (dpTable_succ hj hr)

end Table

theorem lineCost_wterm (pen : Penalties) (lws : List Int) (n : Nat) (Wi Wj : Int) (last : IFrag) (Di : Int)
    (ln i j : Nat) :
    lineCost pen lws n Wi Wj last Di ln i j =
      Di + (pen.nline + wterm pen.overflow pen.shortPen (CostNum.max1 (lws.getD ln (defaultLw lws)))
          (Wj - Wi - last.ws + last.pen) (j < n)
          (i + 1 = j ∧ CostNum.shortLine (Wj - Wi - last.ws + last.pen)
            (CostNum.max1 (lws.getD ln (defaultLw lws))) pen.shortFrac) +
        if 0 < last.pen then (pen.hyphen : Int) else 0) := by
  -- the closure has `Di + nline` inside the branches
  rw [wterm_eq, ← Int.add_assoc, ← Int.add_assoc, add_ite, Int.add_zero, add_ite, add_ite, add_ite, Int.add_zero]
  rfl

/-- the width of the line `i..k+1`, as the closure and as the abstract instance compute it -/
theorem lineWidth_eq (pen : Penalties) (lws : List Int) (frs : List IFrag) (i k : Nat) (hi : i ≤ frs.length)
    (hk : k + 1 ≤ frs.length) :
    (prefixWidths frs).getD (k + 1) 0 - (prefixWidths frs).getD i 0 - (frs.getD k fragD).ws + (frs.getD k fragD).pen =
      (instOf pen lws frs).x (k + 1) - (instOf pen lws frs).W i := by
  rw [prefixWidths_getD pen lws hi, prefixWidths_getD pen lws hk]
  show _ = (instOf pen lws frs).W (k + 1) - (frs.getD k fragD).ws + (frs.getD k fragD).pen - _
  ring

theorem lineCost_eq (pen : Penalties) (lws : List Int) (hl : lws.length ≤ 2) (frs : List IFrag)
    (i j ln : Nat) (Di : Int) (hij : i < j) (hj : j ≤ frs.length) (hln : ln = 0 ↔ i = 0) :
    lineCost pen lws frs.length ((prefixWidths frs).getD i 0) ((prefixWidths frs).getD j 0)
        (frs.getD (j - 1) ⟨0, 0, 0⟩) Di ln i j =
      Di + (instOf pen lws frs).c i j := by
  have htarget : CostNum.max1 (lws.getD ln (defaultLw lws)) = (instOf pen lws frs).t i := by
    by_cases hi : i = 0
    · rw [hi, hln.mpr hi]; rfl
    · rw [lws_getD_two hl (Nat.pos_of_ne_zero fun h => hi (hln.mp h)), Inst.t_pos hi]; rfl
  obtain ⟨k, rfl⟩ := Nat.exists_eq_add_one.mpr (Nat.zero_lt_of_lt hij)
  -- the short-line test of the instance is that of the line `i..n`: read on the last line only
  rw [Inst.c_eq, instOf_short, instOf_n,
    wterm_congr fun hn : ¬ k + 1 < frs.length => by rw [Nat.le_antisymm (Nat.not_lt.mp hn) hj]]
  rw [lineCost_wterm, Nat.add_sub_cancel, fragD_eq,
    lineWidth_eq pen lws frs i k (Nat.le_trans (Nat.le_of_lt hij) hj) hj, htarget]
  rfl

section
variable {pen : Penalties} {lws : List Int} (hl : lws.length ≤ 2) {frs : List IFrag} {r : Nat → Nat}
  (hr : ∀ j, 1 ≤ j → j ≤ frs.length → r j < j)
include hl hr

theorem cellCost_eq {i j : Nat} (hij : i < j) (hj : j ≤ frs.length) :
    cellCost pen lws frs (prefixWidths frs) (dpTable pen lws frs (prefixWidths frs) r frs.length) i j =
      Dv pen lws frs r frs.length i + (instOf pen lws frs).c i j :=
  lineCost_eq pen lws hl frs i j _ _ hij hj (dpTable_ln_zero_iff hr (Nat.le_trans (Nat.le_of_lt hij) hj))

theorem Dv_chain (j : Nat) (h1 : 1 ≤ j) (hj : j ≤ frs.length) :
    Dv pen lws frs r frs.length j = Dv pen lws frs r frs.length (r j) + (instOf pen lws frs).c (r j) j := by
  obtain ⟨k, rfl⟩ := Nat.exists_eq_add_one.mpr h1
  have hlt := hr (k + 1) h1 hj
  rw [Dv_succ hj (Nat.le_of_lt_succ hlt)]
  exact cellCost_eq hl hr hlt hj
end

/-! ### optimality of the back-tracked arrangement -/

/-- the column-minima contract, in the model's own terms. The driver evaluates the same two
    clauses over `Float` (and the length of `rows`) on the rows the real `smawk` returned:
    `checkMinima`, Driver.lean. -/
structure IsMinimaRows (pen : Penalties) (lws : List Int) (frs : List IFrag) (rows : List Nat) : Prop where
  shape : RowsShape rows frs.length
  minimal : ∀ i j, i < j → j ≤ frs.length →
    Dv pen lws frs (fun j => rows.getD j 0) frs.length j ≤
      cellCost pen lws frs (prefixWidths frs)
        (dpTable pen lws frs (prefixWidths frs) (fun j => rows.getD j 0) frs.length) i j

theorem isColMinima_of_rows {pen : Penalties} {lws : List Int} (hl : lws.length ≤ 2) {frs : List IFrag}
    {rows : List Nat} (h : IsMinimaRows pen lws frs rows) :
    IsColMinima frs.length (instOf pen lws frs).c
      (Dv pen lws frs (fun j => rows.getD j 0) frs.length) (fun j => rows.getD j 0) := by
  have hr := h.shape.2
  refine ⟨Dv_zero _, hr, Dv_chain hl hr, fun i j hij hj => ?_⟩
  have := h.minimal i j hij hj
  rwa [cellCost_eq hl hr hij hj] at this

def segCost (c : Nat → Nat → Int) (segs : List (Nat × Nat)) : Int := (segs.map fun p => c p.1 p.2).sum

theorem segCost_nil (c : Nat → Nat → Int) : segCost c [] = 0 := rfl
theorem segCost_cons (c : Nat → Nat → Int) (a b : Nat) (rest : List (Nat × Nat)) :
    segCost c ((a, b) :: rest) = c a b + segCost c rest := by
  simp only [segCost, List.map_cons, List.sum_cons]

section
variable {n : Nat} {c : Nat → Nat → Int} {D : Nat → Int} {r : Nat → Nat} (h : IsColMinima n c D r)
include h

theorem D_le_segs {s e : Nat} {segs : List (Nat × Nat)} (hc : SegChain s segs e) (he : e ≤ n) :
    D e ≤ D s + segCost c segs := by
  fun_induction SegChain s segs e with
  | case1 s e => rw [show s = e from hc, segCost_nil, Int.add_zero]
  | case2 s a b rest e ih =>
    obtain ⟨rfl, h2, h3⟩ := hc
    rw [segCost_cons, ← Int.add_assoc]
    exact Int.le_trans (ih h3 he) (Int.add_le_add_right (h.le a b h2 (Nat.le_trans h3.le he)) _)

/-- with equality along the rows: what back-tracking returns costs `D e` -/
theorem D_eq_segs {s e : Nat} {segs : List (Nat × Nat)} (hc : SegChain s segs e) (he : e ≤ n)
    (hr : ∀ p ∈ segs, p.1 = r p.2) : D e = D s + segCost c segs := by
  fun_induction SegChain s segs e with
  | case1 s e => rw [show s = e from hc, segCost_nil, Int.add_zero]
  | case2 s a b rest e ih =>
    obtain ⟨rfl, h2, h3⟩ := hc
    rw [segCost_cons, ← Int.add_assoc, ih h3 he fun p hp => hr p (List.mem_cons_of_mem _ hp),
      h.eq b (Nat.lt_of_le_of_lt (Nat.zero_le a) h2) (Nat.le_trans h3.le he),
      ← show a = r b from hr (a, b) List.mem_cons_self]
end

/-- documented total cost of an arrangement given as a chain of segments: line number `k` for
    the first listed segment, `k+1` for the next, …; each line costed by the closure itself with
    accumulated cost 0 -/
def arrCost (pen : Penalties) (lws : List Int) (frs : List IFrag) : Nat → List (Nat × Nat) → Int
  | _, [] => 0
  | k, (a, b) :: rest =>
    lineCost pen lws frs.length ((prefixWidths frs).getD a 0) ((prefixWidths frs).getD b 0)
      (frs.getD (b - 1) ⟨0, 0, 0⟩) 0 k a b + arrCost pen lws frs (k + 1) rest

theorem arrCost_eq_segCost {pen : Penalties} {lws : List Int} (hl : lws.length ≤ 2) {frs : List IFrag}
    {k s e : Nat} {segs : List (Nat × Nat)} (hc : SegChain s segs e) (he : e ≤ frs.length)
    (hk : k = 0 ↔ s = 0) :
    arrCost pen lws frs k segs = segCost (instOf pen lws frs).c segs := by
  fun_induction arrCost pen lws frs k segs generalizing s with
  | case1 => rfl
  | case2 k a b rest ih =>
    obtain ⟨rfl, h2, h3⟩ := hc
    rw [segCost_cons, lineCost_eq pen lws hl frs a b k 0 h2 (Nat.le_trans h3.le he) hk, Int.zero_add,
      ih h3 ⟨fun h => absurd h (Nat.succ_ne_zero k), fun h => absurd (h ▸ h2) (Nat.not_lt_zero a)⟩]

/-- C03 for any conforming `minima` (independent of the tie-breaking inside `smawk`): with at most
    two distinct line widths, `wrap_optimal_fit` returns the back-tracked arrangement, and its
    documented total cost (per-line penalty, squared gap on every line but the last, linear
    overflow penalty, short-last-line penalty, hyphen penalty) is at most that of every
    arrangement of the fragments into non-empty contiguous lines. -/
theorem optimalFit_min {β : Type} (m : β → IFrag) (pen : Penalties) (lws : List Int) (hl : lws.length ≤ 2)
    (items : List β) (hn : items ≠ []) (rows : List Nat) (hmin : IsMinimaRows pen lws (items.map m) rows) :
    ∃ segs : List (Nat × Nat),
      wrapOptimalFitWith m pen items lws rows =
        .ok (segs.map fun p => (items.drop p.1).take (p.2 - p.1)) ∧
      SegChain 0 segs items.length ∧
      ∀ segs', SegChain 0 segs' items.length →
        arrCost pen lws (items.map m) 0 segs ≤ arrCost pen lws (items.map m) 0 segs' := by
  have hcm := isColMinima_of_rows hl hmin
  have hlm : (items.map m).length = items.length := List.length_map _
  have hlen : 1 ≤ items.length := List.length_pos_iff.mpr hn
  have hshape := hmin.shape.2
  rw [hlm] at hshape hcm
  obtain ⟨segs, h1, h2, h3⟩ := backtrackGo_spec hshape (items.length + 1) items.length hlen
    (Nat.le_refl _) (Nat.le_succ _)
  refine ⟨segs.reverse, ?_, h2, ?_⟩
  · unfold wrapOptimalFitWith
    simp only [h1, any_isInf_int]
    rfl
  · intro segs' hc'
    rw [arrCost_eq_segCost hl h2 (Nat.le_of_eq hlm.symm) Iff.rfl,
      arrCost_eq_segCost hl hc' (Nat.le_of_eq hlm.symm) Iff.rfl]
    have hle := D_le_segs hcm hc' (Nat.le_refl _)
    rw [D_eq_segs hcm h2 (Nat.le_refl _) fun p hp => h3 p (List.mem_reverse.mp hp)] at hle
    exact Int.le_of_add_le_add_left hle

/-! ### the naive column minima -/

theorem argminFrom_spec (cost : Nat → Int) (fuel i best : Nat) (bv : Int) (hbv : bv = cost best) :
    cost (argminFrom cost fuel i best bv) ≤ cost best ∧
      ∀ x, i ≤ x → x < i + fuel → cost (argminFrom cost fuel i best bv) ≤ cost x := by
  -- the search goes on from `i + 1` with the smaller of `cost i`, `cost best`
  fun_induction argminFrom cost fuel i best bv with
  | case1 => exact ⟨Int.le_refl _, fun x h1 h2 => absurd h2 (Nat.not_lt.mpr h1)⟩
  | case2 fuel i best bv v hlt ih =>
    obtain ⟨r1, r2⟩ := ih rfl
    exact ⟨Int.le_trans r1 (Int.le_of_lt (hbv ▸ hlt)), fun x h1 h2 =>
      (Nat.eq_or_lt_of_le h1).elim (fun h => h ▸ r1) fun h =>
        r2 x h (Nat.lt_of_lt_of_eq h2 (Nat.add_right_comm i fuel 1))⟩
  | case3 fuel i best bv v hlt ih =>
    obtain ⟨r1, r2⟩ := ih hbv
    exact ⟨r1, fun x h1 h2 =>
      (Nat.eq_or_lt_of_le h1).elim (fun h => h ▸ Int.le_trans r1 (Int.not_lt.mp (hbv ▸ hlt))) fun h =>
        r2 x h (Nat.lt_of_lt_of_eq h2 (Nat.add_right_comm i fuel 1))⟩

theorem naive_table (pen : Penalties) (lws : List Int) (frs : List IFrag) {N n : Nat} (hn : n ≤ N) :
    (naiveMinima pen lws frs (prefixWidths frs) n).1 =
      dpTable pen lws frs (prefixWidths frs)
        (fun j => (naiveMinima pen lws frs (prefixWidths frs) N).2.getD j 0) n := by
  induction n with
  | zero => rfl
  | succ n ih =>
    simp only [naiveMinima, dpTable]
    rw [← ih (Nat.le_of_succ_le hn), naive_row pen lws frs _ hn]

end TW
