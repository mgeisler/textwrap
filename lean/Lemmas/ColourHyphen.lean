/-
  The split stage on coloured words. When no escape sequence touches a hyphen (`NoTouch`), the
  hyphen split points of a coloured word correspond one to one to those of the visible word
  (`hyphenPoints_colour`), and so do the pieces (`splitOK_colour`); `split_words` then carries the
  word relation for both built-in splitters (`splitWords_colour`). The words of a coloured text
  inherit `NoTouch` from the text (`findWords_notouch`).
-/
import Lemmas.ColourWords
import Lemmas.HNormPipeline
namespace TW

open TW.C13

/-- no escape sequence touches a hyphen: every `'-'` is met in skipper state `normal`, the
    character before it is visible (`pin` = the previous character was invisible) and the
    character after it does not begin a sequence -/
def NoTouch : Ansi → Bool → Text → Prop
  | _, _, [] => True
  | s, pin, c :: cs =>
    (c = HY → s = .normal ∧ pin = false ∧ cs.head? ≠ some ESC) ∧ NoTouch (s.step c).1 (!(s.step c).2) cs

/-- the flag only constrains a hyphen at the head of the text, so it may be dropped at a cut -/
theorem noTouch_append {s : Ansi} {pin : Bool} {a b : Text} (h : NoTouch s pin (a ++ b)) :
    NoTouch s pin a ∧ NoTouch (s.run a) false b := by
  induction a generalizing s pin with
  | nil =>
    refine ⟨trivial, ?_⟩
    cases b with
    | nil => trivial
    | cons c cs => exact ⟨fun hc => ⟨(h.1 hc).1, rfl, (h.1 hc).2.2⟩, h.2⟩
  | cons c cs ih =>
    obtain ⟨h1, h2⟩ := h
    obtain ⟨i1, i2⟩ := ih h2
    refine ⟨⟨fun hc => ?_, i1⟩, i2⟩
    obtain ⟨a1, a2, a3⟩ := h1 hc
    exact ⟨a1, a2, fun e => a3 (List.head?_append.trans (by rw [e]; rfl))⟩

/-- correspondence of one coloured split point `pc` with one visible split point `pv`: `A` is the
    coloured text up to the cut, `stripFrom s A` the visible text up to it, both end in the hyphen -/
def PtRel (X : Text) (s : Ansi) (offC offV : Nat) (pc pv : Nat) : Prop :=
  ∃ A B, X = A ++ B ∧ offC + blen A = pc ∧ offV + blen (stripFrom s A) = pv ∧ s.run A = .normal ∧
    A.getLast? = some HY ∧ (stripFrom s A).getLast? = some HY

theorem PtRel.cons {X : Text} {s : Ansi} {offC offV pc pv : Nat} (c : Char)
    (h : PtRel X (s.step c).1 (offC + c.utf8Size) (offV + (if (s.step c).2 then c.utf8Size else 0)) pc pv) :
    PtRel (c :: X) s offC offV pc pv := by
  obtain ⟨A, B, rfl, rfl, rfl, e4, e5, e6⟩ := h
  have hA : A ≠ [] := fun h => by rw [h] at e5; cases e5
  have hSA : stripFrom (s.step c).1 A ≠ [] := fun h => by rw [h] at e6; cases e6
  refine ⟨c :: A, B, rfl, by rw [blen_cons, Nat.add_assoc], ?_, e4, ?_, ?_⟩
  · rw [stripFrom_cons, blen_append, apply_ite blen, blen_cons, blen_nil, Nat.add_zero, Nat.add_assoc]
  · rw [← e5]; exact getLast?_append_of_ne_nil [c] A hA
  · rw [stripFrom_cons, getLast?_append_of_ne_nil _ _ hSA, e6]

theorem PtRel.here (cs : Text) (offC offV : Nat) : PtRel (HY :: cs) .normal offC offV (offC + 1) (offV + 1) := by
  have hst : Ansi.normal.step HY = (.normal, true) := step_normal (by decide)
  have hs : stripFrom .normal [HY] = [HY] := by simp [stripFrom, hst]
  exact ⟨[HY], cs, rfl, by simp [utf8Size_HY], by simp [hs, utf8Size_HY], by simp [hst], rfl, by rw [hs]; rfl⟩

/-- a pair of corresponding points identifies the coloured and the visible text up to the cut -/
theorem PtRel.prefixes {X a b a' b' : Text} {pc pv : Nat} (h : PtRel X .normal 0 0 pc pv)
    (hC : X = a ++ b) (hpc : blen a = pc) (hV : stripAnsi X = a' ++ b') (hpv : blen a' = pv) :
    Vis a a' ∧ a.getLast? = some HY ∧ a'.getLast? = some HY := by
  obtain ⟨A, B, a1, a2, a3, a4, a5, a6⟩ := h
  rw [Nat.zero_add] at a2 a3
  obtain rfl : a = A := (split_unique (hC.symm.trans a1) (hpc.trans a2.symm)).1
  have hV2 : stripAnsi X = stripAnsi a ++ stripAnsi B := by rw [a1, strip_append_normal _ _ a4]
  obtain rfl : a' = stripAnsi a := (split_unique (hV.symm.trans hV2) (hpv.trans a3.symm)).1
  exact ⟨⟨rfl, a4⟩, a5, a6⟩

theorem hyphenPoints_colour (isAlnum : Char → Bool) (X : Text) (s : Ansi) (pin : Bool)
    (prevC prevV : Option Char) (offC offV : Nat)
    (hnt : NoTouch s pin X) (hprev : pin = false → prevC = prevV) :
    AllRel (PtRel X s offC offV) (hyphenPointsGo isAlnum prevC offC X)
      (hyphenPointsGo isAlnum prevV offV (stripFrom s X)) := by
  induction X generalizing s pin prevC prevV offC offV with
  | nil => exact AllRel.nil
  | cons c cs ih =>
    obtain ⟨h1, h2⟩ := hnt
    -- the points found in the rest of the text, for whatever is in front of it on the visible side
    have hrec : ∀ pV, ((s.step c).2 = true → some c = pV) →
        AllRel (PtRel (c :: cs) s offC offV) (hyphenPointsGo isAlnum (some c) (offC + c.utf8Size) cs)
          (hyphenPointsGo isAlnum pV (offV + (if (s.step c).2 then c.utf8Size else 0))
            (stripFrom (s.step c).1 cs)) := fun pV hpV =>
      (ih _ _ _ pV _ _ h2 (by simpa using hpV)).imp fun _ _ => PtRel.cons c
    by_cases hcy : c = HY
    · -- a hyphen is visible, and so are its neighbours
      obtain ⟨rfl, a2, a3⟩ := h1 hcy
      subst hcy
      have hst : Ansi.normal.step HY = (.normal, true) := step_normal (by decide)
      have hhead : (stripFrom .normal cs).head? = cs.head? := by
        cases cs with
        | nil => rfl
        | cons d ds => simp [stripFrom, step_normal (show d ≠ ESC by simpa using a3)]
      have hr := hrec (some HY) fun _ => rfl
      simp only [hst, if_true, utf8Size_HY] at hr
      simp only [stripFrom, hst, if_true, hyphenPointsGo, hhead, hprev a2, utf8Size_HY]
      split
      · exact AllRel.cons (PtRel.here cs offC offV) hr
      · exact hr
    · -- no point here on either side; an invisible character is not seen on the visible side
      rcases step_cases s c with ⟨-, -, hst⟩ | hv
      · simpa [stripFrom, hst, hyphenPointsGo, hcy] using hrec (some c) fun _ => rfl
      · simpa [stripFrom, hv, hyphenPointsGo, hcy] using hrec prevV (by simp [hv])

theorem splitOK_colour (cw : Char → Nat) (w w' : Word) (hw : stripW w = w')
    (hrun : Ansi.run .normal w.word = .normal) (hws : ∀ c ∈ w.ws, c = SP)
    (preC preV : Text) (ptsC ptsV : List Nat) (psC psV : List Word)
    (hpts : AllRel (PtRel w.word .normal 0 0) ptsC ptsV)
    (hC : SplitOK cw w preC ptsC psC) (hV : SplitOK cw w' preV ptsV psV)
    (hpre : stripAnsi preC = preV) (hprun : Ansi.run .normal preC = .normal) :
    AllRel (WR cw) psC psV := by
  have hword : Vis w.word w'.word := ⟨by rw [← hw]; rfl, hrun⟩
  replace hpre : Vis preC preV := ⟨hpre, hprun⟩
  clear hprun
  induction hpts generalizing preC preV psC psV with
  | nil =>
    obtain ⟨p, rfl, c1, c2, c3, c4⟩ := splitOK_nil_inv hC
    obtain ⟨p', rfl, v1, v2, v3, v4⟩ := splitOK_nil_inv hV
    have hp : Vis p.word p'.word := hpre.cancel_left (by rw [c4, v4]; exact hword)
    exact AllRel.cons (WR.of_vis hp (by rw [v1, c1, ← hw]; rfl) (by rw [v2, c2, ← hw]; rfl)
      (by rw [c1]; exact hws) c3 v3) AllRel.nil
  | cons hab hrest ih =>
    obtain ⟨p, psC', rfl, c1, c2, c3, c4, ⟨postC, c5⟩, c6⟩ := splitOK_cons_inv hC
    obtain ⟨p', psV', rfl, v1, v2, v3, v4, ⟨postV, v5⟩, v6⟩ := splitOK_cons_inv hV
    obtain ⟨hvA, l1, l2⟩ := hab.prefixes c5 c1 (hword.1.trans v5) v1
    refine AllRel.cons (WR.of_vis (hpre.cancel_left hvA) (by rw [v2, c2]) ?_ (by simp [c2]) c3 v3)
      (ih _ _ psC' psV' c6 v6 hvA)
    rw [v4, c4, l1, l2]

theorem splitOne_colour {env : Env} {sp : Splitter} (hsp : Builtin sp) {w w' : Word} (h : WR env.cw w w')
    (hnt : sp = .hyphen → NoTouch .normal false w.word) (ps : List Word)
    (hps : splitOne env.cw w (sp.points env.isAlnum w.word) 0 = some ps) :
    ∃ ps', splitOne env.cw w' (sp.points env.isAlnum w'.word) 0 = some ps' ∧ AllRel (WR env.cw) ps ps' := by
  obtain ⟨e, hrun, hws, -⟩ := h
  have hword : w'.word = stripAnsi w.word := by rw [← e]; rfl
  obtain ⟨⟨ps', hps'⟩, hpts⟩ : (∃ ps', splitOne env.cw w' (sp.points env.isAlnum w'.word) 0 = some ps') ∧
      AllRel (PtRel w.word .normal 0 0) (sp.points env.isAlnum w.word) (sp.points env.isAlnum w'.word) := by
    rcases builtin_cases hsp with rfl | rfl
    · exact ⟨⟨_, splitOne_nil env.cw w'⟩, AllRel.nil⟩
    · exact ⟨splitOne_hyphen_total env.cw env.isAlnum w', by
        rw [hword]
        exact hyphenPoints_colour env.isAlnum w.word .normal false none none 0 0 (hnt rfl) fun _ => rfl⟩
  exact ⟨ps', hps', splitOK_colour env.cw w w' e hrun hws [] [] _ _ ps ps' hpts
    (splitOne_builtin hsp hps).1 (splitOne_builtin hsp hps').1 rfl rfl⟩

theorem splitWords_rel {R : Word → Word → Prop} {env : Env} {sp : Splitter} {ws ws' : List Word}
    (h : AllRel R ws ws')
    (hone : ∀ w ∈ ws, ∀ w', R w w' → ∀ ps, splitOne env.cw w (sp.points env.isAlnum w.word) 0 = some ps →
      ∃ ps', splitOne env.cw w' (sp.points env.isAlnum w'.word) 0 = some ps' ∧ AllRel R ps ps')
    {sw : List Word} (hs : splitWords env sp ws = some sw) :
    ∃ sw', splitWords env sp ws' = some sw' ∧ AllRel R sw sw' := by
  induction h generalizing sw with
  | nil =>
    obtain rfl := Option.some.inj hs
    exact ⟨[], rfl, AllRel.nil⟩
  | cons hab _ ih =>
    obtain ⟨a, b, ha, hb, rfl⟩ := splitWords_cons_eq_some.mp hs
    obtain ⟨a', ha', hra⟩ := hone _ (by simp) _ hab a ha
    obtain ⟨b', hb', hrb⟩ := ih (fun w hw => hone w (by simp [hw])) hb
    exact ⟨a' ++ b', splitWords_cons_eq_some.mpr ⟨a', b', ha', hb', rfl⟩, hra.append hrb⟩

theorem splitWords_colour {env : Env} {sp : Splitter} (hsp : Builtin sp) {ws ws' : List Word}
    (h : AllRel (WR env.cw) ws ws') (hnt : sp = .hyphen → ∀ w ∈ ws, NoTouch .normal false w.word)
    {sw : List Word} (hs : splitWords env sp ws = some sw) :
    ∃ sw', splitWords env sp ws' = some sw' ∧ AllRel (WR env.cw) sw sw' :=
  splitWords_rel h (fun w hw _ hww' => splitOne_colour hsp hww' fun e => hnt e w hw) hs

/-- every piece begins in state `normal` (`findWords_pieces`), which is all that is needed: `hinc`
    and `hpos` are not used -/
theorem findWords_notouch (env : Env) (sep : Sep) (text : Text)
    (hm : MetNormal (fun c => c == SP) .normal text)
    (hnt : NoTouch .normal false text)
    (hinc : (env.opps (stripAnsi text)).Pairwise (· < ·)) (hpos : ∀ o ∈ env.opps (stripAnsi text), 0 < o)
    (fw : List Word) (h : findWords env sep text = some fw) : ∀ w ∈ fw, NoTouch .normal false w.word := by
  obtain ⟨P, rfl, rfl, hcut⟩ := findWords_pieces (by simp) hm h
  intro w hw
  obtain ⟨p, hp, rfl⟩ := List.mem_map.mp hw
  obtain ⟨pre, post, rfl⟩ := List.append_of_mem hp
  -- cut in front of the piece, where the skipper is in state `normal`, and behind the word, which
  -- is the piece without its trailing spaces
  have hflat : (pre ++ p :: post).flatten = pre.flatten ++ (p ++ post.flatten) := by simp
  rw [hflat] at hnt
  have h2 := (noTouch_append hnt).2
  rw [hcut pre p post rfl, ← Word.from_lossless env.cw p, List.append_assoc] at h2
  exact (noTouch_append h2).1

theorem noTouchB_iff (s : Ansi) (pin : Bool) (t : Text) : noTouchB s pin t = true ↔ NoTouch s pin t := by
  induction t generalizing s pin with
  | nil => simp [noTouchB, NoTouch]
  | cons c cs ih => by_cases hc : c = '-' <;> simp [noTouchB, NoTouch, HY, ESC, ih, hc, and_assoc]

end TW
