/-
  Lemmas about `Word::from` and the ASCII separator loop `asciiGo`: where it cuts (`AsciiCuts`), and
  what that means for the words found.
-/
import TextwrapModel.FindWords
import Lemmas.Std
namespace TW

variable (cw : Char → Nat)

/-! ### `Word::from` -/

@[simp] theorem Word.from_nil : Word.from cw [] = { word := [], ws := [], pen := [], width := 0 } := rfl
theorem Word.from_word (t : Text) : (Word.from cw t).word = trimEndSp t := rfl
theorem Word.from_ws (t : Text) : (Word.from cw t).ws = t.drop (trimEndSp t).length := rfl
@[simp] theorem Word.from_pen (t : Text) : (Word.from cw t).pen = [] := rfl

theorem Word.from_lossless (t : Text) :
    (Word.from cw t).word ++ (Word.from cw t).ws = t := trimEndSp_append_rest t

theorem Word.from_append_spaces {x sp : Text} (hx : x.getLast? ≠ some SP) (hsp : ∀ c ∈ sp, c = SP) :
    Word.from cw (x ++ sp) = { word := x, ws := sp, pen := [], width := displayWidth cw x } := by
  simp [Word.from, trimEndSp_append_spaces x sp hsp, trimEndSp_id x hx]

theorem map_from_text (ps : List Text) :
    (ps.map (Word.from cw)).map (fun w => w.word ++ w.ws) = ps := by
  induction ps with
  | nil => rfl
  | cons p ps ih => simp only [List.map_cons, ih, Word.from_lossless]

/-! ### the ASCII separator -/

theorem asciiGo_flatten (cur : Text) (inWs : Bool) (rest : Text) :
    (asciiGo cur inWs rest).flatten = cur ++ rest := by
  -- the cases of `asciiGo`: the text ends and `cur` is empty, or is not; a cut before `c`; no cut
  fun_induction asciiGo cur inWs rest with
  | case1 cur _ h => simpa using h.symm
  | case2 => simp
  | case3 _ _ _ _ _ ih => simp [ih]
  | case4 _ _ _ _ _ ih => simp [ih]

theorem asciiGo_word (cur w rest : Text) (hw : SP ∉ w) :
    asciiGo cur false (w ++ rest) = asciiGo (cur ++ w) false rest := by
  induction w generalizing cur with
  | nil => simp
  | cons c cs ih =>
    obtain ⟨hc, hcs⟩ := not_or.mp (mt List.mem_cons.mpr hw)
    rw [List.cons_append, asciiGo, Bool.false_and, if_neg Bool.false_ne_true, beq_false_of_ne (Ne.symm hc), ih _ hcs,
      List.append_assoc]
    rfl

/-- no piece is empty: a piece is closed only in whitespace, and then it holds that space -/
theorem asciiGo_ne_nil (cur : Text) (inWs : Bool) (rest : Text) (h : inWs = true → cur ≠ []) :
    ∀ p ∈ asciiGo cur inWs rest, p ≠ [] := by
  fun_induction asciiGo cur inWs rest with
  | case1 => simp
  | case2 cur _ hne => simpa using hne
  | case3 cur _ c cs hb ih => exact List.forall_mem_cons.mpr ⟨h (Bool.and_eq_true_iff.mp hb).1, ih (by simp)⟩
  | case4 cur _ c cs _ ih => exact ih (by simp)

/-- no position inside a piece where a space is followed by a non-space -/
def noBreakInside : Text → Bool
  | a :: b :: r => !(a == SP && b != SP) && noBreakInside (b :: r)
  | _ => true

theorem noBreakInside_append_singleton (t : Text) (c : Char) :
    noBreakInside (t ++ [c]) = (noBreakInside t && !(t.getLast? == some SP && c != SP)) := by
  induction t with
  | nil => simp [noBreakInside]
  | cons a r ih =>
    cases r with
    | nil => simp [noBreakInside]
    | cons b r' =>
      simp only [List.cons_append, noBreakInside] at ih ⊢
      rw [ih]
      simp [List.getLast?_cons_cons, Bool.and_assoc]

/-- consecutive pieces meet exactly where a space is followed by a non-space; inside a piece
    there is no such position -/
def AsciiCuts : List Text → Prop
  | [] => True
  | [p] => noBreakInside p = true
  | p :: q :: r => noBreakInside p = true ∧ p.getLast? = some SP ∧ (∃ c cs, q = c :: cs ∧ c ≠ SP) ∧
      AsciiCuts (q :: r)

theorem asciiCuts_iff (P : List Text) :
    AsciiCuts P ↔ (∀ p ∈ P, noBreakInside p = true) ∧ (∀ p ∈ P.dropLast, p.getLast? = some SP) ∧
      ∀ p ∈ P.tail, ∃ c cs, p = c :: cs ∧ c ≠ SP := by
  fun_induction AsciiCuts P with
  | case1 => exact ⟨fun _ => ⟨nofun, nofun, nofun⟩, fun _ => trivial⟩
  | case2 a => exact ⟨fun h => ⟨List.forall_mem_singleton.mpr h, nofun, nofun⟩, fun h => h.1 a List.mem_cons_self⟩
  | case3 a b r ih =>
    simp only [ih, List.forall_mem_cons, List.dropLast_cons_cons, List.tail_cons]
    constructor
    · rintro ⟨h1, h2, h3, ⟨h4, h5⟩, h6, h7⟩
      exact ⟨⟨h1, h4, h5⟩, ⟨h2, h6⟩, h3, h7⟩
    · rintro ⟨⟨h1, h4, h5⟩, ⟨h2, h6⟩, h3, h7⟩
      exact ⟨h1, h2, h3, ⟨h4, h5⟩, h6, h7⟩

theorem AsciiCuts.noBreak {P : List Text} (h : AsciiCuts P) : ∀ p ∈ P, noBreakInside p = true :=
  ((asciiCuts_iff P).mp h).1

theorem AsciiCuts.dropLast_sp {P : List Text} (h : AsciiCuts P) : ∀ p ∈ P.dropLast, p.getLast? = some SP :=
  ((asciiCuts_iff P).mp h).2.1

theorem AsciiCuts.heads {P : List Text} (h : AsciiCuts P) : ∀ p ∈ P.tail, ∃ c cs, p = c :: cs ∧ c ≠ SP :=
  ((asciiCuts_iff P).mp h).2.2

theorem asciiGo_head (cur : Text) (inWs : Bool) (rest : Text) (h : cur ≠ [] ∨ rest ≠ []) :
    ∃ x r, asciiGo cur inWs rest = (cur ++ x) :: r := by
  fun_induction asciiGo cur inWs rest with
  | case1 => simp_all
  | case2 => exact ⟨[], [], by simp⟩
  | case3 => exact ⟨[], _, by rw [List.append_nil]⟩
  | case4 cur _ c cs _ ih =>
    obtain ⟨x, r, hx⟩ := ih (Or.inl (by simp))
    exact ⟨c :: x, r, by simp [hx]⟩

theorem asciiGo_cuts (cur : Text) (inWs : Bool) (rest : Text)
    (hin : inWs = (cur.getLast? == some SP)) (hc : noBreakInside cur = true) :
    AsciiCuts (asciiGo cur inWs rest) := by
  fun_induction asciiGo cur inWs rest with
  | case1 => trivial
  | case2 => exact hc
  | case3 cur inWs c cs hb ih =>
    simp only [Bool.and_eq_true, bne_iff_ne, ne_eq] at hb
    obtain ⟨x, r, hx⟩ := asciiGo_head [c] false cs (Or.inl (by simp))
    have := ih (by simp; exact hb.2) (by simp [noBreakInside])
    rw [hx] at this ⊢
    refine ⟨hc, ?_, ⟨c, x, by simp, hb.2⟩, this⟩
    rw [hin] at hb; simpa using hb.1
  | case4 cur inWs c cs hb ih =>
    apply ih
    · simp
    · rw [noBreakInside_append_singleton, hc, ← hin, Bool.true_and]
      exact (Bool.not_eq_true' _).mpr (Bool.eq_false_iff.mpr hb)

theorem asciiGo_cuts0 (line : Text) : AsciiCuts (asciiGo [] false line) :=
  asciiGo_cuts [] false line (by simp) (by simp [noBreakInside])

theorem findWordsAscii_nonlast_ws (line : Text) :
    ∀ w ∈ (findWordsAscii cw line).dropLast, w.ws ≠ [] := by
  intro w hw hws
  rw [findWordsAscii, ← List.map_dropLast] at hw
  obtain ⟨p, hp, rfl⟩ := List.mem_map.mp hw
  -- without trailing space the word is the whole piece, which ends in a space
  have hend := (asciiGo_cuts0 line).dropLast_sp p hp
  have := Word.from_lossless cw p
  rw [hws, List.append_nil] at this
  rw [← this] at hend
  exact trimEndSp_no_trailing p hend

theorem findWordsAscii_single (l : Text) (hne : l ≠ []) (hsp : SP ∉ l) :
    findWordsAscii cw l = [Word.from cw l] := by
  have := asciiGo_word [] l [] hsp
  simp only [List.append_nil, List.nil_append] at this
  have he : l.isEmpty = false := by cases l <;> simp_all
  simp [findWordsAscii, this, asciiGo, he]

/-- after a space there are only spaces -/
theorem noBreakInside_sp (r : Text) (h : noBreakInside (SP :: r) = true) : ∀ c ∈ r, c = SP := by
  induction r with
  | nil => nofun
  | cons y r ih =>
    rw [noBreakInside] at h
    obtain ⟨h1, h2⟩ := Bool.and_eq_true_iff.mp h
    obtain rfl : y = SP := by simpa using h1
    exact List.forall_mem_cons.mpr ⟨rfl, ih h2⟩

theorem noBreakInside_split (p : Text) (h : noBreakInside p = true) :
    ∃ a b, p = a ++ b ∧ SP ∉ a ∧ ∀ c ∈ b, c = SP := by
  induction p with
  | nil => exact ⟨[], [], rfl, nofun, nofun⟩
  | cons x r ih =>
    by_cases hx : x = SP
    · subst hx
      exact ⟨[], SP :: r, rfl, nofun, List.forall_mem_cons.mpr ⟨rfl, noBreakInside_sp r h⟩⟩
    · obtain ⟨a, b, rfl, ha, hb⟩ := ih (by
        cases r with
        | nil => rfl
        | cons y r' => exact (Bool.and_eq_true_iff.mp h).2)
      exact ⟨x :: a, b, rfl, fun hm => (List.mem_cons.mp hm).elim (fun e => hx e.symm) ha, hb⟩

theorem findWordsAscii_noSP (line : Text) : ∀ w ∈ findWordsAscii cw line, SP ∉ w.word := by
  intro w hw
  obtain ⟨p, hp, rfl⟩ := List.mem_map.mp hw
  obtain ⟨a, b, rfl, ha, hb⟩ := noBreakInside_split p ((asciiGo_cuts0 line).noBreak p hp)
  rwa [Word.from_append_spaces cw (fun h => ha (List.mem_of_getLast? h)) hb]

end TW
