/-
  Facts about the regenerated tables of `unicode_linebreak` (finite checks over the pair table the
  crate was compiled with, re-run whenever the table changes).
-/
import TextwrapModel.Tables
import Lemmas.Linebreak
import Lemmas.WordsUnicode
namespace TW

/-- a Boolean property of every entry of a row of `n` entries, with the entry's column and the entry
    of the row `ref` in that column. The kernel runs through the two rows in step: looking every entry
    up by its index (`∀ st < nS, ∀ k < nK, … (rows.getD st []).getD k 0 …`) is more than ten times dearer. -/
def sweep (p : Nat → Nat → Nat → Bool) (n : Nat) : Nat → List Nat → List Nat → Bool
  | k, [], _ => k == n
  | k, v :: r, ref => p k v (ref.headD 0) && sweep p n (k + 1) r ref.tail

theorem sweep_spec {p : Nat → Nat → Nat → Bool} {n k0 : Nat} {row ref : List Nat}
    (h : sweep p n k0 row ref = true) (k : Nat) (hk : k0 + k < n) :
    p (k0 + k) (row.getD k 0) (ref.getD k 0) = true := by
  induction row generalizing k0 k ref with
  | nil => exact absurd (beq_iff_eq.mp h ▸ hk) (Nat.not_lt.mpr (Nat.le_add_right _ _))
  | cons v r ih =>
    simp only [sweep, Bool.and_eq_true] at h
    cases k with
    | zero => rw [List.getD_cons_zero, ← List.headD_eq_getD]; exact h.1
    | succ j =>
      have := ih h.2 j (by rwa [Nat.add_assoc, Nat.add_comm 1 j])
      rw [Nat.add_assoc, Nat.add_comm 1 j] at this
      rwa [List.getD_cons_succ, List.getD_eq_getElem?_getD (l := ref), ← List.getElem?_tail,
        ← List.getD_eq_getElem?_getD]

/-- `sweep` over the compiled pair table, 53 rows (states) of 44 columns (classes and end of
    text), each row beside the start-of-text row -/
theorem lbPair_sweep {p : Nat → Nat → Nat → Bool}
    (h : (Gen.lbPair.all fun row => sweep p 44 0 row (Gen.lbPair.getD Gen.lbSot [])) = true) :
    ∀ st, st < 53 → ∀ k, k < 44 → p k (lbTables.pair st k) (lbTables.pair lbTables.sot k) = true := by
  intro st hst k hk
  have hS : Gen.lbPair.length = 53 := by decide +kernel
  have hrow : Gen.lbPair.getD st [] ∈ Gen.lbPair := getD_mem_of_lt _ st (by rw [hS]; exact hst)
  have := sweep_spec (List.all_eq_true.mp h _ hrow) k (by rwa [Nat.zero_add])
  rwa [Nat.zero_add] at this

/-- UAX #14 LB2 in the compiled table: from the start-of-text state nothing is a break — neither
    before a first character of any class nor before end of text (the empty string) -/
theorem lbTables_noBreakAtSot : NoBreakAtSot lbTables := by
  intro k
  show ((Gen.lbPair.getD Gen.lbSot []).getD k 0 &&& Gen.lbAllowedBit != 0) = false
  refine getD_all (P := fun v => (v &&& Gen.lbAllowedBit != 0) = false) _ 0 ?_ (by decide) k
  decide +kernel

/-- the transcription in `TextwrapModel/Linebreak.lean` is of this text of `linebreaks`
    (FNV-1a of the function's source, whitespace removed): another version of the crate breaks
    this obligation even where the opportunities happen to agree -/
theorem lbScan_pinned : Gen.lbScanHash = 14504349850188543191 := by decide +kernel

/-- the opportunities of the model's own `linebreaks` on the compiled tables: char boundaries,
    strictly increasing, positive, at most the byte length -/
theorem ownOpps_contract (s : Text) :
    (∀ o ∈ ownOpps lbTables s, ∃ l r, s = l ++ r ∧ blen l = o) ∧
    (ownOpps lbTables s).Pairwise (· < ·) ∧
    (∀ o ∈ ownOpps lbTables s, 0 < o) ∧
    (∀ o ∈ ownOpps lbTables s, o ≤ blen s) :=
  ⟨ownOpps_boundary _ s, ownOpps_pairwise _ s, ownOpps_pos _ lbTables_noBreakAtSot s, ownOpps_le _ s⟩

/-- the class of every scalar value is a column of the pair table -/
theorem lbTables_clsLt (c : Char) : lbTables.cls c < 44 := by
  show lookupRuns Gen.lbClassRuns c.toNat 0 < 44
  -- `Nat.blt`, which the kernel computes on literals, costs half of `decide (p.2 < 44)`
  have hall : ∀ p ∈ Gen.lbClassRuns, Nat.blt p.2 44 = true := allRec_spec (by decide +kernel)
  rcases lookupRuns_mem Gen.lbClassRuns c.toNat 0 with h | ⟨p, hp, h⟩
  · rw [h]; decide
  · rw [h]; exact Nat.blt_eq.mp (hall p hp)

/-- the class of U+0020 (`BreakClass::Space as u8`). This number and those of `lbHardCls` follow the
    order of the enum in the crate's shared.rs and are not regenerated; `lbTables_space` and
    `lbTables_lb7` fail if the regenerated tables number the classes otherwise. -/
def lbSP : Nat := 9
/-- the hard-line-break classes BK (0), CR (1), LF (2), NL (4): `BreakClass::{Mandatory,
    CarriageReturn, LineFeed, NextLine} as u8` -/
def lbHardCls (k : Nat) : Bool := k == 0 || k == 1 || k == 2 || k == 4
/-- the states from which the table reports a break before a space -/
def lbBadState (st : Nat) : Bool := lbTables.allowed (lbTables.pair st lbSP)

theorem lbTables_space : lbTables.cls ' ' = lbSP := by decide +kernel

/-- what is asked of the 2 332 entries of the compiled pair table, in one pass of the kernel: the
    next state is a row; where a break is allowed the scan goes on as from start of text; a class
    that is not a hard line break does not lead to a state that reports a break before a space -/
theorem lbPair_entries (st : Nat) (hst : st < 53) (k : Nat) (hk : k < 44) :
    lbTables.next (lbTables.pair st k) < 53 ∧
    (lbTables.allowed (lbTables.pair st k) = true →
      lbTables.next (lbTables.pair st k) = lbTables.next (lbTables.pair lbTables.sot k)) ∧
    (lbHardCls k = false → lbBadState (lbTables.next (lbTables.pair st k)) = false) := by
  have := lbPair_sweep (p := fun k v v0 => decide (lbTables.next v < 53) &&
      (!lbTables.allowed v || lbTables.next v == lbTables.next v0) &&
      (lbHardCls k || !lbBadState (lbTables.next v))) (by decide +kernel) st hst k hk
  simp only [Bool.and_eq_true, Bool.or_eq_true, decide_eq_true_eq, Bool.not_eq_true', beq_iff_eq] at this
  obtain ⟨⟨h1, h2⟩, h3⟩ := this
  exact ⟨h1, fun ha => h2.resolve_left (by simp [ha]), fun hc => h3.resolve_left (by simp [hc])⟩

/-- LB7 in the compiled table: a break before a space is reported only from states entered by a
    hard line break -/
theorem lbTables_lb7 : LB7Facts lbTables 53 44 lbSP lbBadState lbHardCls where
  noSp := by
    intro st _ h
    simpa [lbBadState] using h
  stay := fun st hst k hk hc => ⟨(lbPair_entries st hst k hk).2.2 hc, (lbPair_entries st hst k hk).1⟩
  clsLt := lbTables_clsLt
  sot := by decide +kernel

/-- a text without hard-line-break characters (classes BK, CR, LF, NL: U+000A–U+000D, U+0085,
    U+2028, U+2029) -/
def HardFree (s : Text) : Prop := ∀ c ∈ s, lbHardCls (lbTables.cls c) = false

/-- LB7 for the model's own `linebreaks`: in a text without hard-line-break characters no
    opportunity lies directly before a space -/
theorem ownOpps_noSpace (s : Text) (h : HardFree s) :
    ∀ a c b, s = a ++ c :: b → blen a ∈ ownOpps lbTables s → c ≠ ' ' := by
  intro a c b hs ho hc
  have := lbGo_noSpace lbTables lbTables.sot false 0 lbTables_lb7 s lbTables_lb7.sot h a c b hs
    (by simpa [ownOpps] using ho)
  exact this (by rw [hc]; exact lbTables_space)

/-- … and it does fail after a hard line break: `linebreaks("a\u{2028} b")` reports offset 4,
    directly before the space (LB4 takes precedence over LB7) -/
theorem ownOpps_space_after_hard : ownOpps lbTables ['a', ' ', ' ', 'b'] = [4, 5, 6] := by decide +kernel

/-! ### the clauses of the `unicode_linebreak` contract, for an environment that runs the model's
own `linebreaks` on the compiled tables -/

theorem oppsNoSpace_own (env : Env) (h : env.opps = ownOpps lbTables) (s : Text) (hf : HardFree s) :
    OppsNoSpace s (env.opps s) := by
  intro a c b hs ho
  rw [h] at ho
  exact ownOpps_noSpace s hf a c b hs ho

/-- (the bound `o' < blen s` is there because the consumers ask for boundaries before the end only:
    `findWordsUnicode_total`, `pipeline_total`) -/
theorem boundary_own (env : Env) (T : LbTables) (h : env.opps = ownOpps T) (s : Text) :
    ∀ o' ∈ env.opps s, o' < blen s → ∃ l r, s = l ++ r ∧ blen l = o' := by
  intro o' ho' _
  rw [h] at ho'
  exact ownOpps_boundary T s o' ho'

/-! ### restart invariance for the compiled table -/

theorem lbTables_restart : RestartFacts lbTables 53 44 where
  inv := fun st hst k hk => (lbPair_entries st hst k hk).2.1
  stay := fun st hst k hk => (lbPair_entries st hst k hk).1
  clsLt := lbTables_clsLt
  sot := lbTables_lb7.sot.1

/-- a part of a line between two reported opportunities (or the ends), analysed on its own, has
    exactly the inner opportunities it had inside the line — for the compiled table -/
theorem ownOpps_part (A : Text) (c : Char) (l B : Text)
    (hA : A = [] ∨ blen A ∈ ownOpps lbTables (A ++ (c :: l) ++ B)) (o : Nat)
    (h0 : 0 < o) (h1 : o < blen (c :: l)) :
    blen A + o ∈ ownOpps lbTables (A ++ (c :: l) ++ B) ↔ o ∈ ownOpps lbTables (c :: l) := by
  rcases hA with rfl | hA
  · simp only [List.nil_append, blen, Nat.zero_add]
    exact ownOpps_prefix lbTables (c :: l) B o h1
  · rw [List.append_assoc] at hA ⊢
    have e : (c :: l) ++ B = c :: (l ++ B) := rfl
    rw [e] at hA ⊢
    rw [ownOpps_restart lbTables lbTables_restart A c (l ++ B) hA (blen A + o) (Nat.lt_add_of_pos_right h0),
      Nat.add_sub_cancel_left, ← e]
    exact ownOpps_prefix lbTables (c :: l) B o h1

end TW
