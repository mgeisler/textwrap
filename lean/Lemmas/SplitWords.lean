/-
  Lemmas about `split_words` for one word (`SplitOK`), about `split_points` of the hyphen splitter,
  what follows for the built-in splitters, and that the pieces have no split point of their own.
-/
import TextwrapModel.Split
import Lemmas.Bytes
namespace TW

variable (cw : Char → Nat) (isAlnum : Char → Bool)

/-- what `split_words` yields for one word, relative to the text `pre` already consumed: every
    piece but the last ends exactly at the next split point, has no whitespace, and carries the
    penalty `"-"` iff the word up to that point does not already end in `-`; the last piece
    carries the word's whitespace and penalty; widths are cached; nothing is lost. -/
def SplitOK (cw : Char → Nat) (w : Word) : Text → List Nat → List Word → Prop
  | pre, [], [p] => p.ws = w.ws ∧ p.pen = w.pen ∧ p.width = displayWidth cw p.word ∧ pre ++ p.word = w.word
  | pre, idx :: pts, p :: ps =>
    blen (pre ++ p.word) = idx ∧ p.ws = [] ∧ p.width = displayWidth cw p.word ∧
    p.pen = (if (pre ++ p.word).getLast? = some HY then [] else [HY]) ∧
    (∃ post, w.word = pre ++ p.word ++ post) ∧
    SplitOK cw w (pre ++ p.word) pts ps
  | _, _, _ => False

theorem splitOK_nil_inv {cw : Char → Nat} {w : Word} {pre : Text} {ps : List Word} (h : SplitOK cw w pre [] ps) :
    ∃ p, ps = [p] ∧ p.ws = w.ws ∧ p.pen = w.pen ∧ p.width = displayWidth cw p.word ∧ pre ++ p.word = w.word := by
  match ps, h with
  | [p], h => exact ⟨p, rfl, h⟩

theorem splitOK_cons_inv {cw : Char → Nat} {w : Word} {pre : Text} {i : Nat} {pts : List Nat} {ps : List Word}
    (h : SplitOK cw w pre (i :: pts) ps) :
    ∃ p qs, ps = p :: qs ∧ blen (pre ++ p.word) = i ∧ p.ws = [] ∧ p.width = displayWidth cw p.word ∧
      p.pen = (if (pre ++ p.word).getLast? = some HY then [] else [HY]) ∧
      (∃ post, w.word = pre ++ p.word ++ post) ∧ SplitOK cw w (pre ++ p.word) pts qs := by
  match ps, h with
  | p :: qs, h => exact ⟨p, qs, rfl, h⟩

theorem splitOne_ok (w : Word) (pts : List Nat) (prev : Nat) (pre post : Text)
    (hw : w.word = pre ++ post) (hp : blen pre = prev) (hlt : ∀ i ∈ pts, i < blen w.word)
    (hprev : prev < blen w.word ∨ prev = 0)
    (ps : List Word) (h : splitOne cw w pts prev = some ps) : SplitOK cw w pre pts ps := by
  fun_induction splitOne cw w pts prev generalizing pre post ps with
  | case1 prev _ s hs =>
    obtain rfl := Option.some.inj h
    rw [hw, ← hp, sliceFrom?_append] at hs
    obtain rfl := Option.some.inj hs
    exact ⟨rfl, rfl, rfl, hw.symm⟩
  | case2 => cases h
  | case3 prev hn => exact absurd hprev hn
  | case4 idx pts prev pre' s rest h3 h2 h1 ih =>
    obtain rfl := Option.some.inj h
    obtain ⟨l, r, e1, e2, e3⟩ := slice?_some h2
    obtain rfl : l = pre :=
      (split_unique (a := l) (b := s ++ r) (by rw [← hw, e1, List.append_assoc]) (e2.trans hp.symm)).1
    obtain rfl : pre' = l ++ s := by
      obtain ⟨b, q1, q2⟩ := sliceTo?_some h1
      exact (split_unique (q1.symm.trans e1) (q2.trans e3.symm)).1
    exact ⟨e3, rfl, rfl, rfl, ⟨r, e1⟩, ih (l ++ s) r e1 e3 (fun i hi => hlt i (List.mem_cons_of_mem _ hi))
      (Or.inl (hlt idx List.mem_cons_self)) rest h3⟩
  | case5 => cases h

theorem splitOne_ok0 {cw : Char → Nat} {w : Word} {pts : List Nat} (hlt : ∀ i ∈ pts, i < blen w.word)
    {ps : List Word} (h : splitOne cw w pts 0 = some ps) : SplitOK cw w [] pts ps :=
  splitOne_ok cw w pts 0 [] w.word rfl rfl hlt (Or.inr rfl) ps h

/-- `SplitOK` is read through this lemma (what it says of every single piece; the last clause: between
    the ends of a piece lies no other point) and `splitOK_pieces` (of their order) -/
theorem splitOK_mem {cw : Char → Nat} {w : Word} {pre : Text} {pts : List Nat} {ps : List Word}
    (h : SplitOK cw w pre pts ps) : ∀ p ∈ ps, ∃ pre' post,
      w.word = pre' ++ p.word ++ post ∧ p.width = displayWidth cw p.word ∧ (pre' = pre ∨ blen pre' ∈ pts) ∧
      ((blen (pre' ++ p.word) ∈ pts ∧ p.ws = [] ∧
          p.pen = if (pre' ++ p.word).getLast? = some HY then [] else [HY]) ∨
        (post = [] ∧ p.ws = w.ws ∧ p.pen = w.pen)) ∧
      (pts.Pairwise (· < ·) → ∀ i ∈ pts, i ≤ blen pre' ∨ blen (pre' ++ p.word) ≤ i) := by
  induction pts generalizing pre ps with
  | nil =>
    obtain ⟨q, rfl, h1, h2, h3, h4⟩ := splitOK_nil_inv h
    intro p hp
    rw [List.mem_singleton.mp hp]
    exact ⟨pre, [], by simp [h4], h3, Or.inl rfl, Or.inr ⟨rfl, h1, h2⟩, fun _ _ hi => absurd hi List.not_mem_nil⟩
  | cons i pts ih =>
    obtain ⟨q, qs, rfl, h1, h2, h3, h4, ⟨post, h5⟩, h6⟩ := splitOK_cons_inv h
    have hi : blen (pre ++ q.word) ∈ i :: pts := by rw [h1]; exact List.mem_cons_self
    refine List.forall_mem_cons.mpr ⟨⟨pre, post, h5, h3, Or.inl rfl, Or.inl ⟨hi, h2, h4⟩, fun hs j hj => ?_⟩,
      fun p hp => ?_⟩
    · exact Or.inr (h1 ▸ le_of_mem_sorted_cons hs hj)
    obtain ⟨pre', post', e1, e2, e3, e4, e5⟩ := ih h6 p hp
    refine ⟨pre', post', e1, e2, Or.inr ?_, ?_, fun hs j hj => ?_⟩
    · rcases e3 with rfl | e3
      · exact hi
      · exact List.mem_cons_of_mem _ e3
    · rcases e4 with ⟨m, e4⟩ | e4
      · exact Or.inl ⟨List.mem_cons_of_mem _ m, e4⟩
      · exact Or.inr e4
    · rcases List.mem_cons.mp hj with rfl | hj
      · -- the piece begins where the first piece ends, at `j`, or at a later point
        left
        rcases e3 with rfl | e3
        · exact Nat.le_of_eq h1.symm
        · exact le_of_mem_sorted_cons hs (List.mem_cons_of_mem _ e3)
      · exact e5 (List.pairwise_cons.mp hs).2 j hj

theorem splitOK_pieces {cw : Char → Nat} {w : Word} {pre : Text} {pts : List Nat} {ps : List Word}
    (h : SplitOK cw w pre pts ps) (hlt : ∀ i ∈ pts, i < blen w.word) (hpre : blen pre < blen w.word ∨ pre = []) :
    ∃ fpre l, ps = fpre ++ [l] ∧ l.ws = w.ws ∧ pre ++ (fpre.map (·.word)).flatten ++ l.word = w.word ∧
      (w.word ≠ [] → l.word ≠ []) ∧ (∀ f ∈ fpre, f.ws = []) ∧
      ((blen pre :: pts).Pairwise (· < ·) → ∀ f ∈ fpre, f.word ≠ []) := by
  induction pts generalizing pre ps with
  | nil =>
    obtain ⟨p, rfl, h1, _, _, h4⟩ := splitOK_nil_inv h
    refine ⟨[], p, rfl, h1, by rw [List.map_nil, List.flatten_nil, List.append_nil, h4], fun hne hl => ?_,
      fun _ hf => absurd hf List.not_mem_nil, fun _ _ hf => absurd hf List.not_mem_nil⟩
    -- an empty last piece would begin at the end of the word
    rw [hl, List.append_nil] at h4
    rcases hpre with hpre | rfl
    · exact Nat.lt_irrefl _ (h4 ▸ hpre)
    · exact hne h4.symm
  | cons i pts ih =>
    obtain ⟨p, ps, rfl, h1, h2, _, _, _, h6⟩ := splitOK_cons_inv h
    obtain ⟨fpre, l, e1, e2, e3, e4, e5, e6⟩ := ih h6
      (fun j hj => hlt j (List.mem_cons_of_mem _ hj)) (Or.inl (h1 ▸ hlt i List.mem_cons_self))
    refine ⟨p :: fpre, l, congrArg _ e1, e2, ?_, e4, List.forall_mem_cons.mpr ⟨h2, e5⟩,
      fun hinc => List.forall_mem_cons.mpr ⟨fun he => ?_, e6 (h1 ▸ (List.pairwise_cons.mp hinc).2)⟩⟩
    · rw [List.map_cons, List.flatten_cons, ← List.append_assoc pre, e3]
    · -- the piece ends strictly after where it begins
      rw [he, List.append_nil] at h1
      exact Nat.lt_irrefl _ (h1 ▸ (List.pairwise_cons.mp hinc).1 i List.mem_cons_self)

theorem splitOne_total (w : Word) (pts : List Nat) (prev : Nat) (pre post : Text)
    (hw : w.word = pre ++ post) (hp : blen pre = prev)
    (hb : ∀ i ∈ pts, ∃ a b, w.word = a ++ b ∧ blen a = i)
    (hmono : (prev :: pts).Pairwise (· ≤ ·)) :
    ∃ ps, splitOne cw w pts prev = some ps := by
  induction pts generalizing prev pre post with
  | nil =>
    rw [splitOne]
    by_cases h : prev < blen w.word ∨ prev = 0
    · rw [if_pos h, hw, ← hp, sliceFrom?_append]; exact ⟨_, rfl⟩
    · rw [if_neg h]; exact ⟨[], rfl⟩
  | cons idx pts ih =>
    obtain ⟨a, b, hab, hal⟩ := hb idx List.mem_cons_self
    have hle : blen pre ≤ blen a := by
      rw [hp, hal]; exact (List.pairwise_cons.mp hmono).1 idx List.mem_cons_self
    obtain ⟨m, rfl, rfl⟩ := append_eq_append_of_blen_le (hw.symm.trans hab) hle
    obtain ⟨ps, hps⟩ := ih idx (pre ++ m) b hab hal (fun i hi => hb i (List.mem_cons_of_mem _ hi))
      (List.pairwise_cons.mp hmono).2
    have e1 : sliceTo? w.word idx = some (pre ++ m) := by rw [hab, ← hal]; exact sliceTo?_append _ _
    have e2 : slice? w.word prev idx = some m := by
      rw [hab, ← hal, ← hp]; exact slice?_append pre m b
    rw [splitOne, e1, e2, hps]
    exact ⟨_, rfl⟩

theorem splitOne_nil (w : Word) :
    splitOne cw w [] 0 = some [{ word := w.word, width := displayWidth cw w.word, ws := w.ws, pen := w.pen }] := by
  have := sliceFrom?_append [] w.word
  simp only [List.nil_append, blen_nil] at this
  simp only [splitOne, or_true, if_true, this]

theorem splitWords_cons_eq_some {env : Env} {sp : Splitter} {w : Word} {ws sw : List Word} :
    splitWords env sp (w :: ws) = some sw ↔
      ∃ a b, splitOne env.cw w (sp.points env.isAlnum w.word) 0 = some a ∧ splitWords env sp ws = some b ∧
        sw = a ++ b := by
  constructor
  · intro h
    simp only [splitWords] at h
    split at h
    · next a b ha hb => exact ⟨a, b, ha, hb, (Option.some.inj h).symm⟩
    · simp at h
  · rintro ⟨a, b, ha, hb, rfl⟩
    simp only [splitWords, ha, hb]

theorem splitWords_nopoints (env : Env) (sp : Splitter) (ws : List Word)
    (h : ∀ w ∈ ws, sp.points env.isAlnum w.word = [] ∧ w.width = displayWidth env.cw w.word) :
    splitWords env sp ws = some ws := by
  induction ws with
  | nil => rfl
  | cons w r ih =>
    obtain ⟨h1, h2⟩ := h w (by simp)
    exact splitWords_cons_eq_some.mpr ⟨[w], r, by rw [h1, splitOne_nil, ← h2], ih fun x hx => h x (by simp [hx]), rfl⟩

/-! ### hyphen split points -/

/-- the last char of `a`, or `prev` if `a` is empty -/
def lastOr (a : Text) (prev : Option Char) : Option Char :=
  match a.getLast? with
  | some x => some x
  | none => prev

@[simp] theorem lastOr_nil (p : Option Char) : lastOr [] p = p := rfl
theorem lastOr_cons (c : Char) (a : Text) (p : Option Char) : lastOr (c :: a) p = lastOr a (some c) := by
  cases a with
  | nil => simp [lastOr]
  | cons x xs =>
    have : (x :: xs).getLast? = some ((x :: xs).getLast (by simp)) := List.getLast?_eq_some_getLast (by simp)
    simp [lastOr, List.getLast?_cons_cons, this]

/-- `o` is a hyphen split point of `t` (scanned from offset `off`, previous char `prev`): directly
    after a `'-'` that has an alphanumeric character on both sides -/
def IsHyphenPoint (isAlnum : Char → Bool) (prev : Option Char) (off : Nat) (t : Text) (o : Nat) : Prop :=
  ∃ a y b, t = a ++ HY :: y :: b ∧ isAlnum y = true ∧
    ((lastOr a prev).any isAlnum) = true ∧
    o = off + blen (a ++ [HY])

/-- `IsHyphenPoint` obeys the recursion of `hyphenPointsGo` -/
theorem isHyphenPoint_cons (prev : Option Char) (off : Nat) (c : Char) (cs : Text) (o : Nat) :
    IsHyphenPoint isAlnum prev off (c :: cs) o ↔
      ((c = HY && prev.any isAlnum && cs.head?.any isAlnum) = true ∧ o = off + 1) ∨
        IsHyphenPoint isAlnum (some c) (off + c.utf8Size) cs o := by
  constructor
  · rintro ⟨a, y, b, h1, h2, h3, h4⟩
    cases a with
    | nil =>
      obtain ⟨rfl, rfl⟩ := List.cons.inj h1
      exact Or.inl ⟨by simpa [h2] using h3, h4.trans (congrArg _ utf8Size_HY)⟩
    | cons x xs =>
      obtain ⟨rfl, e⟩ := List.cons.inj h1
      exact Or.inr ⟨xs, y, b, e, h2, lastOr_cons c xs prev ▸ h3, h4.trans (Nat.add_assoc off _ _).symm⟩
  · rintro (⟨hc, rfl⟩ | ⟨a, y, b, rfl, h2, h3, rfl⟩)
    · simp only [Bool.and_eq_true, decide_eq_true_eq] at hc
      obtain ⟨⟨rfl, hp⟩, hn⟩ := hc
      cases cs with
      | nil => cases hn
      | cons y b => exact ⟨[], y, b, rfl, hn, hp, congrArg _ utf8Size_HY.symm⟩
    · exact ⟨c :: a, y, b, rfl, h2, by rwa [lastOr_cons], Nat.add_assoc off _ _⟩

theorem hyphenPointsGo_mem (prev : Option Char) (off : Nat) (t : Text) (o : Nat) :
    o ∈ hyphenPointsGo isAlnum prev off t ↔ IsHyphenPoint isAlnum prev off t o := by
  fun_induction hyphenPointsGo isAlnum prev off t with
  | case1 => simp [IsHyphenPoint]
  | case2 prev off c cs _ hc ih => rw [List.mem_cons, ih, isHyphenPoint_cons, and_iff_right hc]
  | case3 prev off c cs _ hc ih => rw [ih, isHyphenPoint_cons, or_iff_right fun h => hc h.1]

theorem hyphenPointsGo_sorted (prev : Option Char) (off : Nat) (t : Text) :
    (hyphenPointsGo isAlnum prev off t).Pairwise (· < ·) := by
  fun_induction hyphenPointsGo isAlnum prev off t with
  | case1 => exact List.Pairwise.nil
  | case2 prev off c cs _ _ ih =>
    refine List.pairwise_cons.mpr ⟨fun o ho => ?_, ih⟩
    obtain ⟨a, _, _, _, _, _, rfl⟩ := (hyphenPointsGo_mem isAlnum _ _ cs o).mp ho
    have := c.utf8Size_pos
    rw [blen_snoc_HY]
    omega
  | case3 _ _ _ _ _ _ ih => exact ih

theorem hyphenPoints_mem (w : Text) (o : Nat) :
    o ∈ hyphenPoints isAlnum w ↔
      ∃ a x y b, w = a ++ x :: HY :: y :: b ∧ isAlnum x = true ∧ isAlnum y = true ∧
        o = blen (a ++ [x, HY]) := by
  rw [hyphenPoints, hyphenPointsGo_mem]
  constructor
  · rintro ⟨a, y, b, h1, h2, h3, h4⟩
    -- the character before the hyphen is alphanumeric, so there is one
    cases hl : a.getLast? with
    | none => simp [lastOr, hl] at h3
    | some x =>
      obtain ⟨a', rfl⟩ := List.getLast?_eq_some_iff.mp hl
      exact ⟨a', x, y, b, by simp [h1], by simpa [lastOr] using h3, h2,
        by rw [h4, Nat.zero_add, List.append_assoc]; rfl⟩
  · rintro ⟨a, x, y, b, h1, h2, h3, h4⟩
    exact ⟨a ++ [x], y, b, by simp [h1], h3, by simp [lastOr, h2],
      by rw [h4, Nat.zero_add, List.append_assoc]; rfl⟩

theorem hyphenPoints_sorted (t : Text) : (hyphenPoints isAlnum t).Pairwise (· < ·) :=
  hyphenPointsGo_sorted isAlnum none 0 t

theorem hyphenPoints_cut {isAlnum : Char → Bool} {w : Text} {o : Nat} (h : o ∈ hyphenPoints isAlnum w) :
    ∃ a y b, w = a ++ HY :: y :: b ∧ blen (a ++ [HY]) = o := by
  obtain ⟨a, x, y, b, h1, _, _, h4⟩ := (hyphenPoints_mem isAlnum w o).mp h
  exact ⟨a ++ [x], y, b, by simp [h1], by simp [h4]⟩

theorem hyphenPoints_boundary {isAlnum : Char → Bool} {w : Text} {o : Nat} (h : o ∈ hyphenPoints isAlnum w) :
    ∃ a b, w = a ++ b ∧ blen a = o ∧ o < blen w := by
  obtain ⟨a, y, b, h1, h2⟩ := hyphenPoints_cut h
  refine ⟨a ++ [HY], y :: b, by simp [h1], h2, ?_⟩
  have := y.utf8Size_pos
  rw [← h2, h1]
  simp only [blen_append, blen_cons, blen_nil]
  omega

theorem hyphenPoints_lt {isAlnum : Char → Bool} {w : Text} {o : Nat} (h : o ∈ hyphenPoints isAlnum w) :
    o < blen w :=
  let ⟨_, _, _, _, hlt⟩ := hyphenPoints_boundary h
  hlt

theorem hyphenPoints_pos {isAlnum : Char → Bool} {w : Text} {o : Nat} (h : o ∈ hyphenPoints isAlnum w) :
    0 < o := by
  obtain ⟨a, _, _, _, h2⟩ := hyphenPoints_cut h
  rw [blen_snoc_HY] at h2
  omega

theorem splitOne_hyphen_ok (w : Word) (ps : List Word)
    (h : splitOne cw w (hyphenPoints isAlnum w.word) 0 = some ps) :
    SplitOK cw w [] (hyphenPoints isAlnum w.word) ps :=
  splitOne_ok0 (fun _ => hyphenPoints_lt) h

theorem splitOne_hyphen_total (w : Word) :
    ∃ ps, splitOne cw w (hyphenPoints isAlnum w.word) 0 = some ps := by
  apply splitOne_total cw w _ 0 [] w.word rfl rfl
  · exact fun i hi => let ⟨a, b, h1, h2, _⟩ := hyphenPoints_boundary hi; ⟨a, b, h1, h2⟩
  · refine List.pairwise_cons.mpr ⟨fun _ _ => Nat.zero_le _, ?_⟩
    exact (hyphenPoints_sorted isAlnum w.word).imp (fun h => Nat.le_of_lt h)

theorem hyphenPoints_prefix {isAlnum : Char → Bool} {w x post : Text} (hw : w = x ++ post)
    (hi : blen x ∈ hyphenPoints isAlnum w) : ∃ a y b, w = a ++ HY :: y :: b ∧ x = a ++ [HY] := by
  obtain ⟨a, y, b, e1, e2⟩ := hyphenPoints_cut hi
  have e : x ++ post = (a ++ [HY]) ++ (y :: b) := by rw [← hw, e1]; simp
  exact ⟨a, y, b, e1, (split_unique e e2.symm).1⟩

/-! ### the built-in splitters -/

/-- `WordSplitter::NoHyphenation` or `WordSplitter::HyphenSplitter` -/
def Builtin : Splitter → Prop
  | .none => True
  | .hyphen => True
  | .custom _ => False

/-- the splitter's points lie in the documented range `0 .. word.len()` (exclusive) for every
    word (true for the built-in splitters) -/
def SplitterInRange (isAlnum : Char → Bool) (sp : Splitter) : Prop :=
  ∀ w : Text, ∀ i ∈ sp.points isAlnum w, i < blen w

theorem builtin_cases {sp : Splitter} (hb : Builtin sp) : sp = .none ∨ sp = .hyphen := by
  cases sp with
  | none => exact Or.inl rfl
  | hyphen => exact Or.inr rfl
  | custom f => exact False.elim hb

theorem builtin_points {sp : Splitter} (hb : Builtin sp) (t : Text) :
    sp.points isAlnum t = [] ∨ sp.points isAlnum t = hyphenPoints isAlnum t := by
  rcases builtin_cases hb with rfl | rfl
  · exact Or.inl rfl
  · exact Or.inr rfl

theorem builtin_points_sub {sp : Splitter} (hb : Builtin sp) (t : Text) :
    ∀ i ∈ sp.points isAlnum t, i ∈ hyphenPoints isAlnum t := by
  intro i hi
  rcases builtin_points isAlnum hb t with e | e
  · simp [e] at hi
  · rwa [e] at hi

theorem builtin_inRange {isAlnum : Char → Bool} {sp : Splitter} (h : Builtin sp) : SplitterInRange isAlnum sp :=
  fun w i hi => hyphenPoints_lt (builtin_points_sub isAlnum h w i hi)

theorem splitOne_builtin {env : Env} {sp : Splitter} (hb : Builtin sp) {w : Word} {ps : List Word}
    (h : splitOne env.cw w (sp.points env.isAlnum w.word) 0 = some ps) :
    SplitOK env.cw w [] (sp.points env.isAlnum w.word) ps ∧
      (0 :: sp.points env.isAlnum w.word).Pairwise (· < ·) := by
  refine ⟨splitOne_ok0 (builtin_inRange hb w.word) h,
    List.pairwise_cons.mpr ⟨fun i hi => hyphenPoints_pos (builtin_points_sub env.isAlnum hb w.word i hi), ?_⟩⟩
  rcases builtin_points env.isAlnum hb w.word with e | e
  · simp [e]
  · rw [e]; exact hyphenPoints_sorted env.isAlnum w.word

/-- a piece of a built-in split begins the word or directly behind a hyphen; it ends directly behind a
    hyphen and carries nothing, or ends the word and carries its whitespace and penalty -/
theorem splitOne_builtin_mem {cw : Char → Nat} {isAlnum : Char → Bool} {sp : Splitter} (hb : Builtin sp) {w : Word}
    {ps : List Word} (h : splitOne cw w (sp.points isAlnum w.word) 0 = some ps) :
    ∀ p ∈ ps, ∃ pre post, w.word = pre ++ p.word ++ post ∧ p.width = displayWidth cw p.word ∧
      (pre = [] ∨ sp = .hyphen ∧ ∃ a, pre = a ++ [HY]) ∧
      ((sp = .hyphen ∧ ∃ a, pre ++ p.word = a ++ [HY]) ∧ p.ws = [] ∧ p.pen = [] ∨
        post = [] ∧ p.ws = w.ws ∧ p.pen = w.pen) := by
  intro p hp
  have hcut : ∀ x post, w.word = x ++ post → blen x ∈ sp.points isAlnum w.word →
      sp = .hyphen ∧ ∃ a, x = a ++ [HY] := by
    intro x post e hi
    obtain ⟨a, _, _, _, hx⟩ := hyphenPoints_prefix e (builtin_points_sub isAlnum hb _ _ hi)
    refine ⟨(builtin_cases hb).resolve_left ?_, a, hx⟩
    rintro rfl
    exact absurd hi List.not_mem_nil
  obtain ⟨pre, post, e, hwd, hpre, hcase, -⟩ := splitOK_mem (splitOne_ok0 (builtin_inRange hb w.word) h) p hp
  refine ⟨pre, post, e, hwd, hpre.imp_right (hcut pre (p.word ++ post) (by rw [e, List.append_assoc])), ?_⟩
  rcases hcase with ⟨hi, hws, hpen⟩ | hlast
  · have hc := hcut _ post e hi
    obtain ⟨a, ha⟩ := hc.2
    exact .inl ⟨hc, hws, by rw [hpen, ha]; simp⟩
  · exact .inr hlast

/-! ### the pieces have no split point of their own

The pieces of `split_words` (hyphen splitter) contain no hyphen split point, and neither does any
contiguous part of such a piece: splitting is idempotent on its pieces. -/

/-- `t` has no hyphen split point -/
def PointFree (isAlnum : Char → Bool) (t : Text) : Prop := hyphenPoints isAlnum t = []

theorem hyphenPoints_lift (pre u post : Text) (o : Nat)
    (h : o ∈ hyphenPoints isAlnum u) : blen pre + o ∈ hyphenPoints isAlnum (pre ++ u ++ post) := by
  obtain ⟨a, x, y, b, rfl, h2, h3, rfl⟩ := (hyphenPoints_mem isAlnum u o).mp h
  exact (hyphenPoints_mem isAlnum _ _).mpr ⟨pre ++ a, x, y, b ++ post, by simp, h2, h3, by simp⟩

theorem pointFree_of_no_inner (pre u post : Text)
    (h : ∀ o ∈ hyphenPoints isAlnum (pre ++ u ++ post), o ≤ blen pre ∨ blen (pre ++ u) ≤ o) :
    PointFree isAlnum u := by
  refine List.eq_nil_iff_forall_not_mem.mpr fun o hm => ?_
  have := hyphenPoints_pos hm
  have := hyphenPoints_lt hm
  have := h _ (hyphenPoints_lift isAlnum pre u post o hm)
  rw [blen_append] at this
  omega

theorem pointFree_sub (pre u post : Text)
    (h : PointFree isAlnum (pre ++ u ++ post)) : PointFree isAlnum u :=
  pointFree_of_no_inner isAlnum pre u post fun o ho => absurd ho (by rw [h]; exact List.not_mem_nil)

/-- the pieces of `split_words` with the hyphen splitter have no hyphen split point: a point inside a
    piece would be a point of the word between two neighbouring cuts -/
theorem splitOne_pointFree (cw : Char → Nat) (isAlnum : Char → Bool) (w : Word) (ps : List Word)
    (h : splitOne cw w (hyphenPoints isAlnum w.word) 0 = some ps) : ∀ p ∈ ps, PointFree isAlnum p.word := by
  intro p hp
  obtain ⟨pre', post, e, -, -, -, hbetween⟩ :=
    splitOK_mem (splitOne_hyphen_ok cw isAlnum w ps h) p hp
  refine pointFree_of_no_inner isAlnum pre' p.word post fun o ho => ?_
  rw [← e] at ho
  exact hbetween (hyphenPoints_sorted isAlnum w.word) o ho

theorem builtin_points_part (sp : Splitter) (hb : Builtin sp) (pre u post : Text)
    (h : sp.points isAlnum (pre ++ u ++ post) = []) : sp.points isAlnum u = [] := by
  rcases builtin_cases hb with rfl | rfl
  · rfl
  · exact pointFree_sub isAlnum pre u post h

end TW
