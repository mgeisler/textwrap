/-
  Two lists related element by element (`List.Forall₂`, which core Lean does not have).
-/
namespace TW

inductive AllRel {α β : Type} (R : α → β → Prop) : List α → List β → Prop
  | nil : AllRel R [] []
  | cons {a b as bs} : R a b → AllRel R as bs → AllRel R (a :: as) (b :: bs)

section
variable {α β : Type} {R : α → β → Prop}

theorem AllRel.append {a1 a2 : List α} {b1 b2 : List β}
    (h1 : AllRel R a1 b1) (h2 : AllRel R a2 b2) : AllRel R (a1 ++ a2) (b1 ++ b2) := by
  induction h1 with
  | nil => exact h2
  | cons h _ ih => exact AllRel.cons h ih

theorem AllRel.length {α β : Type} {R : α → β → Prop} {as : List α} {bs : List β} (h : AllRel R as bs) :
    as.length = bs.length := by
  induction h with
  | nil => rfl
  | cons _ _ ih => simp [ih]

theorem AllRel.map {γ δ : Type} {S : γ → δ → Prop} (f : α → γ) (g : β → δ)
    (hfg : ∀ a b, R a b → S (f a) (g b)) {as : List α} {bs : List β} (h : AllRel R as bs) :
    AllRel S (as.map f) (bs.map g) := by
  induction h with
  | nil => exact AllRel.nil
  | cons h _ ih => exact AllRel.cons (hfg _ _ h) ih

theorem AllRel.isEmpty {as : List α} {bs : List β} (h : AllRel R as bs) : as.isEmpty = bs.isEmpty := by
  cases h <;> rfl

theorem AllRel.drop {as : List α} {bs : List β} (h : AllRel R as bs) (n : Nat) :
    AllRel R (as.drop n) (bs.drop n) := by
  induction h generalizing n with
  | nil => simp; exact AllRel.nil
  | cons hab _ ih =>
    cases n with
    | zero => exact AllRel.cons hab (by simpa using ih 0)
    | succ k => simpa using ih k

theorem AllRel.take {as : List α} {bs : List β} (h : AllRel R as bs) (n : Nat) :
    AllRel R (as.take n) (bs.take n) := by
  induction h generalizing n with
  | nil => simp; exact AllRel.nil
  | cons hab _ ih =>
    cases n with
    | zero => simp; exact AllRel.nil
    | succ k => simp only [List.take_succ_cons]; exact AllRel.cons hab (ih k)

theorem AllRel.map_eq {γ : Type} {as : List α} {bs : List β} (f : α → γ) (g : β → γ)
    (hfg : ∀ a ∈ as, ∀ b, R a b → f a = g b) (h : AllRel R as bs) : as.map f = bs.map g := by
  induction h with
  | nil => rfl
  | cons hab _ ih =>
    simp [hfg _ (by simp) _ hab, ih fun a ha => hfg a (by simp [ha])]

theorem AllRel.imp {S : α → β → Prop} (hRS : ∀ a b, R a b → S a b) {as : List α} {bs : List β}
    (h : AllRel R as bs) : AllRel S as bs := by
  simpa using h.map id id hRS

theorem AllRel.flatten {as : List (List α)} {bs : List (List β)} (h : AllRel (AllRel R) as bs) :
    AllRel R as.flatten bs.flatten := by
  induction h with
  | nil => exact AllRel.nil
  | cons hab _ ih => simpa using hab.append ih

theorem AllRel.iff_map {f : α → β} {P : α → Prop} (hR : ∀ a b, R a b ↔ b = f a ∧ P a)
    {as : List α} {bs : List β} : AllRel R as bs ↔ bs = as.map f ∧ ∀ a ∈ as, P a := by
  constructor
  · intro h
    induction h with
    | nil => simp
    | cons hab _ ih =>
      obtain ⟨rfl, hp⟩ := (hR _ _).mp hab
      obtain ⟨rfl, ih⟩ := ih
      exact ⟨rfl, by simpa [hp] using ih⟩
  · rintro ⟨rfl, h⟩
    induction as with
    | nil => exact AllRel.nil
    | cons a r ih =>
      exact AllRel.cons ((hR _ _).mpr ⟨rfl, h a (by simp)⟩) (ih fun x hx => h x (by simp [hx]))

end

end TW
