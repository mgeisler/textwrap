/-
  The closure `wrap_optimal_fit` hands to `online_column_minima` answers on every call the loop can
  make (`costClosure_eq`, `costClosure_ok`), for any number type; so the self-contained
  `wrap_optimal_fit` never panics, and what is left of it is the overflow test and the back-tracking
  over the rows (`wrapOptimalFit_eq`, `wrapOptimalFit_partition`).
-/
import TextwrapModel.Wrap
import Lemmas.OptimalShape
import Lemmas.SmawkLoop
namespace TW

section
variable {α : Type} [CostNum α]

theorem prefixWidths_go_length (acc : α) (fs : List (Frag α)) : (prefixWidths.go acc fs).length = fs.length := by
  induction fs generalizing acc with
  | nil => rfl
  | cons f fs ih => exact congrArg Nat.succ (ih _)

theorem prefixWidths_length (fs : List (Frag α)) : (prefixWidths fs).length = fs.length + 1 := by
  exact congrArg Nat.succ (prefixWidths_go_length 0 fs)

omit [CostNum α] in
theorem shapeFrom_of (l : List (Nat × α)) : ∀ pos,
    (∀ k e, l[k]? = some e → 1 ≤ pos + k → e.1 < pos + k) → shapeFrom l pos = true := by
  induction l with
  | nil => intro _ _; rfl
  | cons e es ih =>
    intro pos h
    rw [shapeFrom, Bool.and_eq_true, Bool.or_eq_true, decide_eq_true_eq, decide_eq_true_eq]
    constructor
    · by_cases hp : pos = 0
      · left; exact hp
      · right; exact h 0 e rfl (Nat.pos_of_ne_zero hp)
    · apply ih
      intro k e' he' hk
      rw [Nat.add_assoc, Nat.add_comm 1 k] at hk ⊢
      exact h (k + 1) e' he' hk

omit [CostNum α] in
/-- on a well-shaped vector `LineNumbers::get` returns, and returns the number of steps back to
    column 0 -/
theorem lnGet_eq {minima : List (Nat × α)} {i : Nat} (hs : VecShape minima) (hi : i < minima.length) :
    lnGet minima i = some (lnWalk minima i i) := by
  unfold lnGet
  by_cases h0 : i = 0
  · rw [if_pos h0, h0]
    rfl
  · have : shapeFrom (minima.take (i + 1)) 0 = true :=
      shapeFrom_of _ 0 fun k e he hk => by
        rw [Nat.zero_add] at hk ⊢
        exact hs.take (i + 1) k hk e he
    rw [if_neg h0, decide_eq_true hi, this]
    rfl

omit [CostNum α] in
/-- only row 0 starts the first line: what selects the first line width in the cost closure -/
theorem lnWalk_eq_zero_iff (minima : List (Nat × α)) (i : Nat) : lnWalk minima i i = 0 ↔ i = 0 := by
  cases i with
  | zero => exact ⟨fun _ => rfl, fun _ => rfl⟩
  | succ i =>
    rw [lnWalk, if_neg (Nat.succ_ne_zero i), Nat.one_add]
    exact ⟨fun h => (nomatch h), fun h => (nomatch h)⟩

theorem costClosure_eq {pen : Penalties} {lws : List α} {frs : List (Frag α)} {pre : List (Nat × α)}
    {i j : Nat} (hs : VecShape pre) (hi : i < pre.length) (hij : i < j) (hj : j ≤ frs.length) :
    costClosure pen lws frs (prefixWidths frs) pre i j =
      some (lineCost pen lws frs.length ((prefixWidths frs).getD i 0) ((prefixWidths frs).getD j 0)
        (frs.getD (j - 1) ⟨0, 0, 0⟩) (pre.getD i (0, 0)).2 (lnWalk pre i i) i j) := by
  have hW : frs.length < (prefixWidths frs).length := prefixWidths_length frs ▸ Nat.lt_succ_self _
  have hWj := Nat.lt_of_le_of_lt hj hW
  have hj0 := Nat.zero_lt_of_lt hij
  rw [costClosure, lnGet_eq hs hi, getElem?_eq_some_getD (Nat.lt_trans hij hWj) 0, getElem?_eq_some_getD hWj 0,
    if_neg (Nat.ne_of_gt hj0), getElem?_eq_some_getD (Nat.sub_one_lt_of_le hj0 hj) ⟨0, 0, 0⟩,
    getElem?_eq_some_getD hi (0, 0)]

theorem costClosure_ok (pen : Penalties) (lws : List α) (frs : List (Frag α)) :
    MOk (costClosure pen lws frs (prefixWidths frs)) (prefixWidths frs).length := by
  intro pre i j hs hi hij hj
  rw [prefixWidths_length] at hj
  rw [costClosure_eq hs hi hij (Nat.le_of_lt_succ hj)]
  rfl

omit [CostNum α] in
theorem backtrackVec_eq (minima : List (Nat × α)) :
    ∀ fuel pos, pos < minima.length →
    backtrackVec minima fuel pos = backtrackGo (fun j => (minima.map (·.1)).getD j 0) fuel pos := by
  intro fuel
  induction fuel with
  | zero => intro pos _; rfl
  | succ fuel ih =>
    intro pos hp
    rw [backtrackVec, backtrackGo, List.getElem?_eq_getElem hp]
    dsimp only
    rw [getD_map_fst (List.getElem?_eq_getElem hp)]
    by_cases h1 : pos < minima[pos].1
    · rw [if_pos h1, if_pos h1]
    · rw [if_neg h1, if_neg h1]
      by_cases h2 : minima[pos].1 = 0
      · rw [if_pos h2, if_pos h2]
      · rw [if_neg h2, if_neg h2, ih _ (Nat.lt_of_le_of_lt (Nat.le_of_not_lt h1) hp)]
        rfl

omit [CostNum α] in
theorem RowsShape.of_vecShape {minima : List (Nat × α)} {n : Nat} {v : α} (hl : minima.length = n + 1)
    (hs : VecShape minima) (h0 : minima[0]? = some (0, v)) : RowsShape (minima.map (·.1)) n := by
  refine ⟨getD_map_fst h0, fun j h1 hj => ?_⟩
  have he := List.getElem?_eq_getElem (Nat.lt_of_le_of_lt hj (Nat.lt_of_lt_of_eq (Nat.lt_succ_self n) hl.symm))
  rw [getD_map_fst he]
  exact hs j h1 _ he

theorem ownMinimaVec_spec (pen : Penalties) (frs : List (Frag α)) (lws : List α) :
    ∃ minima, ownMinimaVec pen frs lws = some minima ∧ minima.length = frs.length + 1 ∧
      VecShape minima ∧ RowsShape (minima.map (·.1)) frs.length := by
  obtain ⟨minima, e1, e2, e3, v0, e4⟩ := onlineColumnMinima_spec (costClosure_ok pen lws frs) (0 : α)
    (Nat.lt_of_lt_of_eq (Nat.succ_pos _) (prefixWidths_length _).symm)
  rw [prefixWidths_length] at e2
  exact ⟨minima, e1, e2, e3, RowsShape.of_vecShape e2 e3 e4⟩

theorem ownMinima_eq {pen : Penalties} {frs : List (Frag α)} {lws : List α} {minima : List (Nat × α)}
    (h : ownMinimaVec pen frs lws = some minima) : ownMinima pen frs lws = minima.map (·.1) := by
  unfold ownMinima
  rw [show onlineColumnMinima _ 0 _ = some minima from h]

/-- neither `LineNumbers::get` nor an index panics; what is left of `wrap_optimal_fit` is the
    overflow test and the back-tracking over the rows -/
theorem wrapOptimalFit_eq {β : Type} (m : β → Frag α) (pen : Penalties) (frs : List β) (lws : List α) :
    ∃ minima, ownMinimaVec pen (frs.map m) lws = some minima ∧
      RowsShape (minima.map (·.1)) frs.length ∧
      (wrapOptimalFit m pen frs lws).1 =
        if minima.any (fun e => CostNum.isInf e.2) then .overflow
        else match backtrackGo (fun j => (minima.map (·.1)).getD j 0) (frs.length + 1) frs.length with
          | none => .panic
          | some segs => .ok (segs.reverse.map fun (a, b) => (frs.drop a).take (b - a)) := by
  obtain ⟨minima, e1, e2, e3, hs⟩ := ownMinimaVec_spec pen (frs.map m) lws
  rw [List.length_map] at e2 hs
  have hn : frs.length < minima.length := Nat.lt_of_lt_of_eq (Nat.lt_succ_self _) e2.symm
  refine ⟨minima, e1, hs, ?_⟩
  unfold wrapOptimalFit
  dsimp only
  rw [show onlineColumnMinima _ 0 _ = some minima from e1]
  dsimp only
  rw [lnGet_eq e3 hn]
  dsimp only
  rw [backtrackVec_eq minima _ _ hn]
  by_cases ho : minima.any (fun e => CostNum.isInf e.2) = true
  · rw [if_pos ho, if_pos ho]
  · rw [if_neg ho, if_neg ho]
    generalize backtrackGo _ _ _ = r
    cases r <;> rfl

/-- C06, and the optimal-fit part of C04, with no assumption on `smawk`: for any number type
    (IEEE doubles included), widths and penalties the self-contained `wrap_optimal_fit` never panics;
    it reports an overflow or returns an ordered partition into non-empty runs. -/
theorem wrapOptimalFit_partition {β : Type} (m : β → Frag α) (pen : Penalties) (frs : List β) (lws : List α) :
    (wrapOptimalFit m pen frs lws).1 = .overflow ∨
    ∃ lines, (wrapOptimalFit m pen frs lws).1 = .ok lines ∧ lines.flatten = frs ∧
      (frs ≠ [] → ∀ l ∈ lines, l ≠ []) ∧ (frs = [] → lines = [[]]) := by
  obtain ⟨minima, _, hs, e⟩ := wrapOptimalFit_eq m pen frs lws
  obtain ⟨segs, e', h⟩ := backtrack_partition frs (fun j => (minima.map (·.1)).getD j 0)
    hs.1 hs.2
  rw [e, e']
  by_cases ho : minima.any (fun e => CostNum.isInf e.2) = true
  · exact Or.inl (if_pos ho)
  · exact Or.inr ⟨_, if_neg ho, h⟩

/-- The statement alone does not say that `smawk` returns: `ownMinima` turns a panic (`none`) into
    `[]`, and `[]` has the shape. That it returns is `ownMinimaVec_spec`; for the whole of
    `wrap_optimal_fit` it is `wrapOptimalFit_partition`, which `wrapOptimalFit_eq_own`
    (Lemmas/OptimalOwn.lean, over `Int`) carries over to `wrapOptimalFitWith` on these rows. -/
theorem ownMinima_rowsShape (pen : Penalties) (frs : List (Frag α)) (lws : List α) :
    RowsShape (ownMinima pen frs lws) frs.length := by
  obtain ⟨minima, e1, _, _, hs⟩ := ownMinimaVec_spec pen frs lws
  rw [ownMinima_eq e1]
  exact hs

end
end TW
