/-
  The two word separators on coloured text, block by block: the coloured run and the visible run
  cut at the same blocks (the Unicode separator directly in front of the sequence run — "first
  entry"), so the words correspond. Any text can be read as blocks on the way, which gives the
  Unicode separator on arbitrary text (`C13.unicode_strip_commute`, in namespace `TW.C13` with the
  other text-by-text statements of `Lemmas/StripStages.lean`).
-/
import Lemmas.ColourBlocks
import Lemmas.WordsUnicode
namespace TW

open TW.C13

/-- a word boundary after a space lies in front of the run `P`. `hatt`: a non-empty run does not
    stand between two spaces -/
theorem asciiGo_block (cur : Text) {w : Bool} {P : Text} {c : Char} (rest : Text) (hP : SP ∉ P)
    (hatt : P = [] ∨ c ≠ SP ∨ w = false) :
    asciiGo cur w (P ++ c :: rest) =
      if w && c != SP then cur :: asciiGo (P ++ [c]) false rest
      else asciiGo (cur ++ P ++ [c]) (c == SP) rest := by
  cases w with
  | false => simp [asciiGo_word cur P _ hP, asciiGo]
  | true =>
    cases P with
    | nil => simp [asciiGo]
    | cons p P' =>
      have hc : (c != SP) = true := by simpa using hatt
      have hp : (p != SP) = true := by simpa using fun e : p = SP => hP (by simp [e])
      have hb : (c == SP) = false := by simpa using hc
      rw [List.cons_append, asciiGo, Bool.true_and, if_pos hp, asciiGo_word [p] P' _ fun e => hP (by simp [e])]
      simp [asciiGo, hc, hb]

theorem inWs_false {curV : Text} {w : Bool} (hw : w = (curV.getLast? == some SP)) :
    (∃ d, curV.getLast? = some d ∧ d ≠ SP) → w = false := fun ⟨d, hd1, hd2⟩ => by
  rw [hw, hd1]; simpa using hd2

/-- the last visible character, which `Attached` takes as its first argument, is the last
    character of `curV` -/
theorem asciiGo_blocks (bs : List Block) (tl : Text) (hv : ValidB bs tl)
    (curC curV : Text) (w : Bool) (hw : w = (curV.getLast? == some SP))
    (hcur : curV = [] → curC = [])
    (htr : TR curC curV) (hatt : Attached curV.getLast? bs tl) :
    AllRel TR (asciiGo curC w (colOf bs tl)) (asciiGo curV w (visOf bs)) := by
  induction bs generalizing curC curV w with
  | nil =>
    -- the trailing run, being attached, is empty or follows a non-space
    have hcol : asciiGo curC w tl = asciiGo (curC ++ tl) w [] := by
      rcases hatt with rfl | h
      · simp
      · rw [inWs_false hw h]; simpa using asciiGo_word curC tl [] hv.2.1
    simp only [colOf_nil, visOf_nil, hcol, asciiGo]
    exact htr.finish hcur hv.2 hatt
  | cons b r ih =>
    obtain ⟨hb1, hb2⟩ := hv.1 b (by simp)
    obtain ⟨ha1, ha2⟩ := hatt
    rw [colOf_cons, visOf_cons, asciiGo_block curC _ hb1.1 (ha1.imp_right (Or.imp_right (inWs_false hw))), asciiGo]
    split
    · next h =>
      have hc : b.2 ≠ SP := by simpa using (Bool.and_eq_true_iff.mp h).2
      exact AllRel.cons htr (ih hv.tail _ _ _ (by simpa using hc) (by simp) (TR.start hb1 hb2) (by simpa using ha2))
    · exact ih hv.tail _ _ _ (by simp) (by simp) (htr.block hb1 hb2 ha1) (by simpa using ha2)

theorem uniGo_invisible {s : Ansi} {st : Nat} {opps : List Nat} {Q : Text} (cur rest : Text)
    (hinv : stripFrom s Q = []) (hno : opps.head? ≠ some st) :
    uniGo s st cur opps (Q ++ rest) = uniGo (s.run Q) st (cur ++ Q) opps rest := by
  induction Q generalizing s cur with
  | nil => simp
  | cons q Q' ih =>
    obtain ⟨hq, hinv'⟩ := stripFrom_cons_eq_nil.mp hinv
    rw [List.cons_append, uniGo_cons, if_neg (fun h => hno h.2), hq, if_neg Bool.false_ne_true, ih _ hinv',
      Ansi.run, List.append_assoc, List.singleton_append]

theorem uniGo_trailing (st : Nat) (cur : Text) {opps : List Nat} {tl : Text}
    (htl : stripFrom .normal tl = []) (hlt : ∀ o ∈ opps, o < st) :
    uniGo .normal st cur opps tl = if (cur ++ tl).isEmpty then [] else [cur ++ tl] := by
  have hno : opps.head? ≠ some st := fun e => Nat.lt_irrefl _ (hlt st (List.mem_of_mem_head? e))
  have h := uniGo_invisible cur [] htl hno
  rwa [List.append_nil] at h

theorem uniGo_char (st : Nat) (cur : Text) (opps : List Nat) {c : Char} {rest : Text} (hc : c ≠ ESC) :
    uniGo .normal st cur opps (c :: rest) =
      if opps.head? = some st then cur :: uniGo .normal (st + c.utf8Size) [c] opps.tail rest
      else uniGo .normal (st + c.utf8Size) (cur ++ [c]) opps rest := by
  simp [uniGo_cons, UniCut, step_normal hc]

/-- an opportunity at `c` cuts in front of the run `P` ("first entry": the first character of the
    run is met in state `normal`) -/
theorem uniGo_block (st : Nat) (cur : Text) {opps : List Nat} {P : Text} {c : Char} {rest : Text}
    (hP : Vis P []) (hc : c ≠ ESC) (hinc : opps.Pairwise (· < ·)) :
    uniGo .normal st cur opps (P ++ c :: rest) =
      if opps.head? = some st then cur :: uniGo .normal (st + c.utf8Size) (P ++ [c]) opps.tail rest
      else uniGo .normal (st + c.utf8Size) (cur ++ P ++ [c]) opps rest := by
  by_cases hst : opps.head? = some st
  · cases P with
    | nil => simpa using uniGo_char st cur opps hc
    | cons p P' =>
      -- the cut is made at the first character of the run, and no second cut at the same offset
      have hos : opps.tail.head? ≠ some st := fun e => by
        obtain ⟨os, rfl⟩ := List.head?_eq_some_iff.mp hst
        exact Nat.lt_irrefl _ (List.rel_of_pairwise_cons hinc (List.mem_of_mem_head? e))
      obtain ⟨hp, hinv'⟩ := stripFrom_cons_eq_nil.mp hP.1
      have hrun' : (Ansi.normal.step p).1.run P' = .normal := hP.2
      rw [List.cons_append, uniGo_cons, if_pos ⟨rfl, hst⟩, hp, if_neg Bool.false_ne_true,
        uniGo_invisible [p] (c :: rest) hinv' hos, hrun', uniGo_char _ _ _ hc, if_neg hos,
        if_pos hst]
      simp
  · rw [uniGo_invisible cur (c :: rest) hP.1 hst, hP.2, uniGo_char _ _ _ hc,
      if_neg hst, if_neg hst]

theorem uniGo_blocks (bs : List Block) (tl : Text) (hv : ValidB bs tl)
    (st : Nat) (curC curV : Text) (opps : List Nat) (hinc : opps.Pairwise (· < ·))
    (hlt : ∀ o ∈ opps, o < st + blen (visOf bs))
    (hcur : curV = [] → curC = []) (htr : TR curC curV) (hatt : Attached curV.getLast? bs tl) :
    AllRel TR (uniGo .normal st curC opps (colOf bs tl)) (uniGo .normal st curV opps (visOf bs)) := by
  induction bs generalizing st curC curV opps with
  | nil =>
    rw [colOf_nil, visOf_nil, uniGo_trailing st curC hv.2.2.1 hlt, uniGo]
    exact htr.finish hcur hv.2 hatt
  | cons b r ih =>
    obtain ⟨hb1, hb2⟩ := hv.1 b (by simp)
    obtain ⟨ha1, ha2⟩ := hatt
    rw [visOf_cons, blen_cons, ← Nat.add_assoc] at hlt
    rw [colOf_cons, visOf_cons, uniGo_block st curC hb1.vis hb2 hinc, uniGo_char st curV opps hb2]
    split
    · exact AllRel.cons htr (ih hv.tail _ _ _ _ hinc.tail (fun x hx => hlt x (List.mem_of_mem_tail hx)) (by simp)
        (TR.start hb1 hb2) (by simpa using ha2))
    · exact ih hv.tail _ _ _ _ hinc hlt (by simp) (htr.block hb1 hb2 ha1) (by simpa using ha2)

/-- the Unicode separator on any text, read block by block: `P` is the run of invisible
    characters since the last visible one, closed into a block by the next visible character; the
    last run may end inside a sequence. No attachment is needed as long as only the text of the
    pieces is compared. -/
theorem uniGo_strip (line P : Text) (hP : stripFrom .normal P = [])
    (st : Nat) (curC curV : Text) (opps : List Nat) (hinc : opps.Pairwise (· < ·))
    (hlt : ∀ o ∈ opps, o < st + blen (stripFrom (Ansi.run .normal P) line))
    (hcur : Vis curC curV) (hne : curV = [] → stripFrom (Ansi.run .normal P) line ≠ []) :
    (uniGo .normal st curC opps (P ++ line)).map stripAnsi =
      uniGo .normal st curV opps (stripFrom (Ansi.run .normal P) line) := by
  induction line generalizing P st curC curV opps with
  | nil =>
    have hV : curV ≠ [] := fun h => hne h rfl
    have hC : curC ≠ [] := fun h => hV (by rw [← hcur.1, h]; rfl)
    have hstrip : stripAnsi (curC ++ P) = curV := by
      rw [strip_append_normal _ _ hcur.2, hcur.1]; simp [stripAnsi, hP]
    simp [uniGo_trailing st curC hP hlt, uniGo, hV, hC, hstrip]
  | cons c cs ih =>
    rw [stripFrom_cons] at hlt hne ⊢
    rcases step_cases (Ansi.run .normal P) c with ⟨hs, hc, hst⟩ | hv
    · simp only [hst, if_true, List.singleton_append] at hlt hne ⊢
      rw [blen_cons, ← Nat.add_assoc] at hlt
      rw [uniGo_block st curC ⟨hP, hs⟩ hc hinc, uniGo_char st curV opps hc]
      split
      · rw [List.map_cons, hcur.1]
        exact congrArg _ (ih [] rfl _ _ _ _ hinc.tail (fun x hx => hlt x (List.mem_of_mem_tail hx))
          (by simpa using Vis.append ⟨hP, hs⟩ (Vis.char hc)) (by simp))
      · exact ih [] rfl _ _ _ _ hinc hlt
          (by simpa using (hcur.append ⟨hP, hs⟩).append (Vis.char hc)) (by simp)
    · simp only [hv, Bool.false_eq_true, if_false, List.nil_append] at hlt hne ⊢
      have := ih (P ++ [c]) (by rw [stripFrom_append, hP, stripFrom_cons, hv]; rfl) st curC curV opps
      rw [run_snoc, List.append_assoc] at this
      exact this hinc hlt hcur hne

namespace C13

/-- C13, Unicode separator on any text: the words found in the coloured line, with the sequences
    stripped, are the words found in the stripped line (the opportunities are those of the stripped
    text in both runs, as in `find_words_unicode_break_properties`). `hline`: a non-empty line
    without a visible character is one word in the coloured run and no word in the visible run. -/
theorem unicode_strip_commute (os : List Nat) (line : Text) (hline : stripAnsi line ≠ [])
    (hinc : os.Pairwise (· < ·))
    (hb : ∀ o ∈ os, ∃ p d q, stripAnsi line = p ++ d :: q ∧ blen p = o) :
    (uniGo .normal 0 [] os line).map stripAnsi = uniGo .normal 0 [] os (stripAnsi line) := by
  refine uniGo_strip line [] rfl 0 [] [] os hinc (fun o ho => ?_) Vis.nil fun _ => hline
  obtain ⟨p, d, q, h1, rfl⟩ := hb o ho
  have := d.utf8Size_pos
  rw [show stripFrom (Ansi.run .normal []) line = p ++ d :: q from h1]; simp; omega

end C13

/-- `hinc` is used by the Unicode separator only -/
theorem findWords_colour {env : Env} {sep : Sep} {bs : List Block} {tl : Text} (hv : ValidB bs tl)
    (hatt : Attached none bs tl) (hinc : (env.opps (visOf bs)).Pairwise (· < ·)) {fw : List Word}
    (h : findWords env sep (colOf bs tl) = some fw) :
    ∃ fw', findWords env sep (visOf bs) = some fw' ∧ AllRel (WR env.cw) fw fw' := by
  have hword := fun a b (hab : TR a b) => hab.word env.cw
  cases sep with
  | ascii =>
    obtain rfl := Option.some.inj h
    exact ⟨_, rfl, AllRel.map _ _ hword
      (asciiGo_blocks bs tl hv [] [] false (by simp) (fun _ => rfl) TR.nil (by simpa using hatt))⟩
  | unicode =>
    simp only [findWords_unicode, findWordsUnicode, strip_colOf hv, strip_visOf hv.noEsc] at h ⊢
    split at h
    · next os hos =>
      obtain rfl := Option.some.inj h
      obtain ⟨hsub, hlt⟩ := usedOpps_sub hos
      exact ⟨_, rfl, AllRel.map _ _ hword
        (uniGo_blocks bs tl hv 0 [] [] os (hinc.sublist hsub) (by simpa using hlt) (fun _ => rfl) TR.nil
          (by simpa using hatt))⟩
    · simp at h

end TW
