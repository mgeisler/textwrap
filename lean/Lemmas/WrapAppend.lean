/-
  `wrap` on rendered lines: `wrapR` is the paragraph loop followed by `render`, for which byte offsets
  do not matter (`wrapR_elen`), so that the loop over appended paragraph lists is one loop after the
  other (`wrapR_append`). A run depends on the number of earlier lines only through the indent of its
  first line (`wrapR_indent_congr`): together, paragraph independence.
-/
import Lemmas.WrapText
namespace TW
open C05 (indentOf)

def wrapR (elen : Nat) (single : Text → Nat → Option (List LineD)) (paras : List Text) (off n : Nat) :
    Option (List Text) :=
  (wrapParas elen single paras off n).map (·.map LineD.render)

theorem wrapR_nil (elen : Nat) (single : Text → Nat → Option (List LineD)) (off n : Nat) :
    wrapR elen single [] off n = some [] := rfl

section
variable {elen : Nat} {single : Text → Nat → Option (List LineD)} {p : Text} {ps qs : List Text} {off n : Nat}

theorem wrapR_cons :
    wrapR elen single (p :: ps) off n =
      ((single p n).map (·.map LineD.render)).bind fun m =>
        (wrapR elen single ps (off + blen p + elen) (n + m.length)).map (m ++ ·) := by
  -- `render` does not see the shift
  simp only [wrapR, wrapParas_map_cons LineD.render (fun _ t => t) fun _ _ => rfl, List.map_id']

theorem wrapR_elen (e1 e2 : Nat) (single : Text → Nat → Option (List LineD)) (paras : List Text)
    (off off' n : Nat) : wrapR e1 single paras off n = wrapR e2 single paras off' n := by
  induction paras generalizing off off' n with
  | nil => rfl
  | cons p ps ih =>
    rw [wrapR_cons, wrapR_cons]
    congr 1
    funext m
    rw [ih]

theorem wrapR_of_lines (F : Text → List Text)
    (h : ∀ p ∈ ps, ∀ n, (single p n).map (·.map LineD.render) = some (F p)) :
    wrapR elen single ps off n = some ((ps.map F).flatten) := by
  induction ps generalizing off n with
  | nil => rfl
  | cons p r ih =>
    rw [wrapR_cons, h p List.mem_cons_self n, Option.bind_some, ih fun x hx => h x (List.mem_cons_of_mem _ hx)]
    rfl

/-- the second loop may restart at byte offset 0: `wrapR_elen` -/
theorem wrapR_append :
    wrapR elen single (ps ++ qs) off n =
      (wrapR elen single ps off n).bind fun l1 =>
        (wrapR elen single qs 0 (n + l1.length)).map (l1 ++ ·) := by
  induction ps generalizing off n with
  | nil => simpa [wrapR_nil] using wrapR_elen elen elen single qs off 0 n
  | cons p ps ih =>
    rw [List.cons_append, wrapR_cons, wrapR_cons, Option.bind_assoc]
    congr 1
    funext m
    rw [ih]
    cases wrapR elen single ps (off + blen p + elen) (n + m.length) with
    | none => rfl
    | some l1 => simp [Nat.add_assoc, Option.map_map, Function.comp_def]

end

/-- a line-by-line correspondence `f` of the rendered lines of two routines on two lists of
    paragraphs carries over. For one list of paragraphs and a view of the descriptors other than
    `render`: `wrapParas_map_congr`. -/
theorem wrapR_sim {ι : Type} {elen1 elen2 : Nat} {s1 s2 : Text → Nat → Option (List LineD)} (f : Text → Text)
    {c v : ι → Text} {l : List ι}
    (h : ∀ i ∈ l, ∀ n ds, s1 (c i) n = some ds →
      ∃ ds', s2 (v i) n = some ds' ∧ ds.map (fun d => f d.render) = ds'.map LineD.render)
    {off off' n : Nat} {ls : List Text} (hl : wrapR elen1 s1 (l.map c) off n = some ls) :
    wrapR elen2 s2 (l.map v) off' n = some (ls.map f) := by
  induction l generalizing off off' n ls with
  | nil =>
    obtain rfl := Option.some.inj hl
    rfl
  | cons i r ih =>
    rw [List.map_cons, wrapR_cons] at hl ⊢
    obtain ⟨m, hm, hl⟩ := Option.bind_eq_some_iff.mp hl
    obtain ⟨ds, hs, rfl⟩ := Option.map_eq_some_iff.mp hm
    obtain ⟨rr, hrest, rfl⟩ := Option.map_eq_some_iff.mp hl
    obtain ⟨ds', hs', hren⟩ := h i List.mem_cons_self n ds hs
    have hlen : ds'.length = ds.length := by simpa using (congrArg List.length hren).symm
    rw [List.length_map] at hrest
    rw [hs', Option.map_some, Option.bind_some, List.length_map, hlen,
      ih (fun j hj => h j (List.mem_cons_of_mem _ hj)) hrest, ← hren]
    simp

section
variable {α : Type} [CostNum α]

theorem wrap_eq_wrapR (env : Env) (mo : MinimaOracle α) (o : Opts) (t : Text) :
    wrap env mo o t = wrapR (blen o.lineEnding.str) (wrapSingleLine env mo o) (splitEnding o.lineEnding t) 0 0 :=
  rfl

/-- `wrap` reads the text only through its paragraphs, and the line ending only to find them -/
theorem wrap_congr_paras (env : Env) (mo : MinimaOracle α) (o : Opts) (e : LineEnding) {t t' : Text}
    (h : splitEnding e t' = splitEnding o.lineEnding t) :
    wrap env mo { o with lineEnding := e } t' = wrap env mo o t := by
  rw [wrap_eq_wrapR, wrap_eq_wrapR]
  change wrapR _ _ (splitEnding e t') 0 0 = _
  rw [h, wrapR_elen _ (blen o.lineEnding.str)]
  exact wrapParas_map_congr LineD.render (fun _ t => t) (fun _ _ => rfl) fun _ _ _ =>
    wrapSingleLine_map_congr LineD.render env mo rfl fun _ _ _ _ _ _ => rfl

variable {env : Env} {mo : MinimaOracle α} {o : Opts} {n m : Nat}

theorem wrapSingleLine_indent_congr {line : Text} (h : indentOf o n = indentOf o m) :
    wrapSingleLine env mo o line n = wrapSingleLine env mo o line m := by
  simpa using wrapSingleLine_map_congr id env mo (o := o) (line := line)
    (by simp only [wrapInput, lineWidths_eq, h]) fun k => by
      cases k with
      | zero => intros; rw [Nat.add_zero, Nat.add_zero, h]
      | succ k => intros; rfl

theorem wrapR_indent_congr {elen : Nat} {paras : List Text} {off : Nat} (h : indentOf o n = indentOf o m) :
    wrapR elen (wrapSingleLine env mo o) paras off n = wrapR elen (wrapSingleLine env mo o) paras off m := by
  induction paras generalizing off n m with
  | nil => rfl
  | cons p ps ih =>
    rw [wrapR_cons, wrapR_cons, wrapSingleLine_indent_congr h]
    congr 1
    funext ls
    -- after a first line every line carries the subsequent indent
    have : indentOf o (n + ls.length) = indentOf o (m + ls.length) := by
      cases ls with
      | nil => exact h
      | cons _ _ => rfl
    rw [ih this]

end
end TW
