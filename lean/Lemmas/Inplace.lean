/-
  `fill_inplace`: the text as a list of segments, each kept or followed by the one space that
  becomes a newline (`ISeg`); the indices the code computes are the positions of those spaces
  (every group of ASCII words but the last of a paragraph ends in a space), so the result is
  `segOut` of the segments whose `segIn` is the text (`fillInplace_eq`).
-/
import Lemmas.Reassemble
import Lemmas.FirstFit
namespace TW

inductive ISeg where
  | keep (t : Text)
  | cut (x : Text)

def segIn : List ISeg → Text
  | [] => []
  | .keep t :: r => t ++ segIn r
  | .cut x :: r => x ++ [SP] ++ segIn r

def segOut : List ISeg → Text
  | [] => []
  | .keep t :: r => t ++ segOut r
  | .cut x :: r => x ++ [LF] ++ segOut r

def segIdx : Nat → List ISeg → List Nat
  | _, [] => []
  | off, .keep t :: r => segIdx (off + blen t) r
  | off, .cut x :: r => (off + blen x) :: segIdx (off + blen x + 1) r

theorem segIdx_append (off : Nat) (a b : List ISeg) :
    segIdx off (a ++ b) = segIdx off a ++ segIdx (off + blen (segIn a)) b := by
  induction a generalizing off with
  | nil => simp [segIdx, segIn]
  | cons s r ih => cases s <;> simp [segIdx, segIn, ih, Nat.add_assoc]

theorem segIn_append (a b : List ISeg) : segIn (a ++ b) = segIn a ++ segIn b := by
  induction a with
  | nil => rfl
  | cons s r ih => cases s <;> simp [segIn, ih]

theorem segOut_append (a b : List ISeg) : segOut (a ++ b) = segOut a ++ segOut b := by
  induction a with
  | nil => rfl
  | cons s r ih => cases s <;> simp [segOut, ih]

theorem blen_segOut (segs : List ISeg) : blen (segOut segs) = blen (segIn segs) := by
  induction segs with
  | nil => rfl
  | cons s r ih => cases s <;> simp [segIn, segOut, ih]

theorem setNewlineAt_append (a b : Text) : setNewlineAt (a ++ SP :: b) (blen a) = some (a ++ LF :: b) := by
  induction a with
  | nil => rfl
  | cons c cs ih =>
    -- the index is positive, the form the last equation of `setNewlineAt` asks for
    obtain ⟨k, hk⟩ := Nat.exists_eq_add_one.mpr (Nat.add_pos_left c.utf8Size_pos (blen cs))
    rw [List.cons_append, blen_cons, hk, setNewlineAt, if_pos (hk ▸ Nat.le_add_right _ _), ← hk,
      Nat.add_sub_cancel_left, ih]
    rfl

theorem apply_cuts (pre : Text) (segs : List ISeg) :
    (segIdx (blen pre) segs).foldl (fun acc i => acc.bind (setNewlineAt · i)) (some (pre ++ segIn segs)) =
      some (pre ++ segOut segs) := by
  induction segs generalizing pre with
  | nil => simp [segIdx, segIn, segOut]
  | cons s r ih =>
    cases s with
    | keep t =>
      simp only [segIdx, segIn, segOut]
      simpa [List.append_assoc] using ih (pre ++ t)
    | cut x =>
      simp only [segIdx, segIn, segOut, List.foldl_cons]
      have h1 : setNewlineAt (pre ++ (x ++ [SP] ++ segIn r)) (blen pre + blen x) =
          some ((pre ++ x) ++ LF :: segIn r) := by
        simpa [List.append_assoc] using setNewlineAt_append (pre ++ x) (segIn r)
      simp only [Option.bind_some, h1]
      simpa [List.append_assoc, Nat.add_assoc] using ih (pre ++ x ++ [LF])

inductive SpToLF : Text → Text → Prop
  | nil : SpToLF [] []
  | same (c : Char) {a b : Text} : SpToLF a b → SpToLF (c :: a) (c :: b)
  | repl {a b : Text} : SpToLF a b → SpToLF (SP :: a) (LF :: b)

theorem SpToLF.refl (t : Text) : SpToLF t t := by
  induction t with
  | nil => exact .nil
  | cons c cs ih => exact .same c ih

theorem SpToLF.append {a b c d : Text} (h1 : SpToLF a b) (h2 : SpToLF c d) : SpToLF (a ++ c) (b ++ d) := by
  induction h1 with
  | nil => exact h2
  | same x _ ih => exact .same x ih
  | repl _ ih => exact .repl ih

theorem SpToLF.length_eq {a b : Text} (h : SpToLF a b) : a.length = b.length := by
  induction h with
  | nil => rfl
  | same _ _ ih => simp [ih]
  | repl _ ih => simp [ih]

theorem segs_spToLF (segs : List ISeg) : SpToLF (segIn segs) (segOut segs) := by
  induction segs with
  | nil => exact .nil
  | cons s r ih =>
    cases s with
    | keep t => exact (SpToLF.refl t).append ih
    | cut x =>
      simp only [segIn, segOut, List.append_assoc]
      exact (SpToLF.refl x).append (.repl ih)

/-- every group but the last ends in a space, the one that becomes a newline -/
def paraSegs : List (List Word) → List ISeg
  | [] => []
  | [g] => [.keep (wordsText g)]
  | g :: g2 :: gs => .cut (wordsText g).dropLast :: paraSegs (g2 :: gs)

theorem segIn_paraSegs (groups : List (List Word))
    (h : ∀ g ∈ groups.dropLast, (wordsText g).getLast? = some SP) :
    segIn (paraSegs groups) = wordsText groups.flatten := by
  fun_induction paraSegs groups with
  | case1 => rfl
  | case2 g => simp [segIn]
  | case3 g g2 gs ih =>
    obtain ⟨x, hx⟩ := List.getLast?_eq_some_iff.mp (h g (by simp))
    rw [segIn, ih fun g' hg' => h g' (List.mem_cons_of_mem g hg'), List.flatten_cons (l := g), wordsText_append,
      hx, List.dropLast_concat]

theorem inplaceIndices_eq (groups : List (List Word)) (off : Nat)
    (h : ∀ g ∈ groups.dropLast, (wordsText g).getLast? = some SP) :
    inplaceIndices groups off = some (segIdx off (paraSegs groups)) := by
  fun_induction paraSegs groups generalizing off with
  | case1 => rfl
  | case2 g => rfl
  | case3 g g2 gs ih =>
    obtain ⟨x, hx⟩ := List.getLast?_eq_some_iff.mp (h g (by simp))
    rw [inplaceIndices, sum_blen_wordsText g, ih _ fun g' hg' => h g' (List.mem_cons_of_mem g hg'), segIdx, hx,
      List.dropLast_concat]
    simp [Nat.add_assoc]

section
variable (α : Type) [CostNum α]

def inplaceGroups (cw : Char → Nat) (width : Nat) (p : Text) : List (List Word) :=
  wrapFirstFit (fragOf (α := α)) (findWordsAscii cw p) [CostNum.ofNat width]

def textSegs (cw : Char → Nat) (width : Nat) : List Text → List ISeg
  | [] => []
  | [p] => paraSegs (inplaceGroups α cw width p)
  | p :: q :: r => paraSegs (inplaceGroups α cw width p) ++ [ISeg.keep [LF]] ++ textSegs cw width (q :: r)

theorem inplaceGroups_ok (cw : Char → Nat) (width : Nat) (p : Text) :
    (inplaceGroups α cw width p).flatten = findWordsAscii cw p ∧
    ∀ g ∈ (inplaceGroups α cw width p).dropLast, (wordsText g).getLast? = some SP := by
  have hflat : (inplaceGroups α cw width p).flatten = findWordsAscii cw p :=
    wrapFirstFit_flatten _ _ _
  refine ⟨hflat, ?_⟩
  by_cases hw : findWordsAscii cw p = []
  · -- no words: one empty group, nothing to cut
    have : inplaceGroups α cw width p = [[]] := by rw [inplaceGroups, hw, wrapFirstFit_nil]
    simp [this]
  · exact groups_end_sp cw p _ hflat (wrapFirstFit_nonempty _ _ _ hw)

theorem segIn_inplaceGroups (cw : Char → Nat) (width : Nat) (p : Text) :
    segIn (paraSegs (inplaceGroups α cw width p)) = p := by
  obtain ⟨h1, h2⟩ := inplaceGroups_ok α cw width p
  rw [segIn_paraSegs _ h2, h1, findWordsAscii_text]

/-- `segIn` and `segOut` both read the segments of a text as the readings of its paragraphs joined by
    `'\n'` -/
theorem textSegs_hom (φ : List ISeg → Text) (happ : ∀ a b, φ (a ++ b) = φ a ++ φ b) (hlf : φ [.keep [LF]] = [LF])
    (cw : Char → Nat) (width : Nat) (paras : List Text) :
    φ (textSegs α cw width paras) =
      joinWith [LF] (paras.map fun p => φ (paraSegs (inplaceGroups α cw width p))) := by
  fun_induction textSegs α cw width paras with
  | case1 => exact List.self_eq_append_right.mp (happ [] [])
  | case2 p => rfl
  | case3 p q r ih =>
    rw [happ, happ, hlf, ih]
    rfl

theorem inplaceParas_eq (cw : Char → Nat) (width : Nat) (paras : List Text) (off : Nat) :
    inplaceParas α cw width paras off = some (segIdx off (textSegs α cw width paras)) := by
  fun_induction textSegs α cw width paras generalizing off with
  | case1 => rfl
  | case2 p =>
    rw [inplaceParas, ← inplaceGroups, inplaceIndices_eq _ off (inplaceGroups_ok α cw width p).2]
    exact congrArg some (List.append_nil _)
  | case3 p q r ih =>
    rw [inplaceParas, ← inplaceGroups, inplaceIndices_eq _ off (inplaceGroups_ok α cw width p).2, ih,
      segIdx_append, segIdx_append, segIn_append, segIn_inplaceGroups]
    simp [segIdx, segIn, Nat.add_assoc]

theorem fillInplace_eq (cw : Char → Nat) (text : Text) (width : Nat) :
    fillInplace α cw text width = some (segOut (textSegs α cw width (splitLF text))) ∧
      segIn (textSegs α cw width (splitLF text)) = text := by
  have hin : segIn (textSegs α cw width (splitLF text)) = text := by
    rw [textSegs_hom α segIn segIn_append rfl]
    simp only [segIn_inplaceGroups, List.map_id', joinWith_splitLF]
  refine ⟨?_, hin⟩
  unfold fillInplace
  rw [inplaceParas_eq]
  have := apply_cuts [] (textSegs α cw width (splitLF text))
  simp only [blen_nil, List.nil_append, hin] at this
  exact this

end
end TW
