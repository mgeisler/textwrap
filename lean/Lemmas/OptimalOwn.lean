/-
  Under C03's hypotheses the rows computed by the model's own `smawk` (TextwrapModel/Smawk.lean)
  conform to the column-minima contract (`ownMinima_isMinimaRows`), so every theorem stated for
  conforming rows holds for the self-contained model of `wrap_optimal_fit`, which over `Int` is
  `wrapOptimalFitWith` on those rows (`wrapOptimalFit_eq_own`).
-/
import Lemmas.SmawkOnline
import Lemmas.SmawkClosure
import Lemmas.OptimalBridge
namespace TW
open TW.Opt

theorem costClosure_isCost (pen : Penalties) (lws : List Int) (hl : lws.length ≤ 2) (frs : List IFrag) :
    MIsCost (costClosure pen lws frs (prefixWidths frs)) (instOf pen lws frs).c (frs.length + 1) := by
  intro pre i j hs hi hij hj
  rw [costClosure_eq hs hi hij (Nat.le_of_lt_succ hj)]
  exact congrArg some (lineCost_eq pen lws hl frs i j _ (Dof pre i) hij (Nat.le_of_lt_succ hj) (lnWalk_eq_zero_iff pre i))

theorem cost_onlineTM (pen : Penalties) (lws : List Int) (frs : List IFrag) (h : (instOf pen lws frs).Hyp) :
    OnlineTM (instOf pen lws frs).c 0 (frs.length + 1) := by
  intro res k hch i i' j j' h1 hk h2 h3 h4
  have hm : IsChainTo (instOf pen lws frs).c (Dof res) (Rof res) k :=
    ⟨hch.1, fun j hj1 hj2 => (hch.2 j hj1 hj2).1, fun j hj1 hj2 => (hch.2 j hj1 hj2).2⟩
  exact Inst.tm_strict_chain h hm i i' j j' h1 hk h2 h3 (Nat.le_of_lt_succ h4)

/-- the model's own `smawk` conforms to the column-minima contract under C03's hypotheses
    (non-negative integers, penalty width ≤ next width, at most two line widths) -/
theorem ownMinima_isMinimaRows (pen : Penalties) (lws : List Int) (hl : lws.length ≤ 2) (frs : List IFrag)
    (h : (instOf pen lws frs).Hyp) : IsMinimaRows pen lws frs (ownMinima pen frs lws) := by
  have hshape := ownMinima_rowsShape pen frs lws
  refine ⟨hshape, ?_⟩
  obtain ⟨res, e1, e2, e3, e4, e5⟩ := onlineColumnMinima_min (costClosure_isCost pen lws hl frs)
    (cost_onlineTM pen lws frs h) (Nat.succ_pos _)
  have hown : ownMinima pen frs lws = res.map (·.1) :=
    ownMinima_eq (by unfold ownMinimaVec; rw [prefixWidths_length]; exact e1)
  have hr : ∀ j, (ownMinima pen frs lws).getD j 0 = Rof res j := by
    intro j
    rw [hown]
    unfold Rof
    simp only [List.getD_eq_getElem?_getD, List.getElem?_map]
    cases res[j]? <;> rfl
  -- the table rebuilt from the rows holds the values the algorithm computed
  have hD : ∀ j, j ≤ frs.length →
      Dv pen lws frs (fun j => (ownMinima pen frs lws).getD j 0) frs.length j = Dof res j := by
    intro j
    induction j using Nat.strong_induction_on with
    | _ j ih =>
      intro hj
      rcases Nat.eq_zero_or_pos j with h0 | hpos
      · subst h0
        rw [Dv_zero, e3]
      · have hlt := hshape.2 j hpos hj
        rw [Dv_chain hl hshape.2 j hpos hj, ih _ hlt (Nat.le_trans (Nat.le_of_lt hlt) hj), hr j]
        exact ((e4 j hpos (Nat.lt_succ_of_le hj)).2).symm
  intro i j hij hj
  rw [cellCost_eq hl hshape.2 hij hj, hD j hj, hD i (Nat.le_trans (Nat.le_of_lt hij) hj)]
  exact e5 i j hij (Nat.lt_succ_of_le hj)

/-- over exact integers the self-contained `wrap_optimal_fit` is `wrap_optimal_fit` run on its
    own rows: the two formulations of the model coincide -/
theorem wrapOptimalFit_eq_own {β : Type} (m : β → IFrag) (pen : Penalties) (frs : List β) (lws : List Int) :
    (wrapOptimalFit m pen frs lws).1 = wrapOptimalFitWith m pen frs lws (ownMinima pen (frs.map m) lws) := by
  obtain ⟨minima, e1, _, e⟩ := wrapOptimalFit_eq m pen frs lws
  rw [e]
  unfold wrapOptimalFitWith
  rw [ownMinima_eq e1]
  dsimp only
  rw [any_isInf_int minima (·.2), any_isInf_int (dpTable ..) (·.1)]
  rfl

end TW
