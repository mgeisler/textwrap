/-
  List facts that are not about the model and that core does not state in this form: `getD` of
  appended and updated lists, last elements, strictly increasing lists of numbers, ranges,
  induction two elements at a time, and `List.all` in the form the kernel evaluates most cheaply.
-/
namespace TW

/-! ### `getD` -/

theorem getD_append_left {α} (l₁ l₂ : List α) (i : Nat) (d : α) (h : i < l₁.length) :
    (l₁ ++ l₂).getD i d = l₁.getD i d := by
  simp [List.getD_eq_getElem?_getD, List.getElem?_append_left h]

theorem getD_append_right {α} (l₁ l₂ : List α) (i : Nat) (d : α) (h : l₁.length ≤ i) :
    (l₁ ++ l₂).getD i d = l₂.getD (i - l₁.length) d := by
  simp [List.getD_eq_getElem?_getD, List.getElem?_append_right h]

theorem getD_all {α} {P : α → Prop} (l : List α) (d : α) (hl : ∀ v ∈ l, P v) (hd : P d) (k : Nat) :
    P (l.getD k d) := by
  rw [List.getD_eq_getElem?_getD]
  cases h : l[k]? with
  | none => exact hd
  | some v => exact hl v (List.mem_of_getElem? h)

theorem getD_set {α} {d : α} {l : List α} {i : Nat} {v : α} {k : Nat} (hi : i < l.length) :
    (l.set i v).getD k d = if k = i then v else l.getD k d := by
  simp only [List.getD_eq_getElem?_getD, List.getElem?_set]
  by_cases h : i = k
  · subst h; simp [hi]
  · have : ¬ k = i := fun e => h e.symm
    simp [h, this]

theorem getD_mem_of_lt {α} {d : α} (l : List α) (q : Nat) (h : q < l.length) : l.getD q d ∈ l := by
  rw [List.getD_eq_getElem?_getD, List.getElem?_eq_getElem h]; exact List.getElem_mem h

theorem exists_index_of_mem {α} {d : α} (l : List α) (c : α) (h : c ∈ l) : ∃ q, q < l.length ∧ l.getD q d = c := by
  obtain ⟨q, hq, he⟩ := List.getElem_of_mem h
  exact ⟨q, hq, by rw [List.getD_eq_getElem?_getD, List.getElem?_eq_getElem hq]; exact he⟩

theorem getElem?_eq_some_getD {α} {l : List α} {i : Nat} (h : i < l.length) (d : α) :
    l[i]? = some (l.getD i d) :=
  (List.getElem?_eq_getElem h).trans (congrArg some (List.getElem_eq_getD d))

theorem getD_map_fst {α} {l : List (Nat × α)} {j : Nat} {e : Nat × α} (h : l[j]? = some e) :
    (l.map (·.1)).getD j 0 = e.1 := by
  rw [List.getD_eq_getElem?_getD, List.getElem?_map, h]
  rfl

/-! ### last elements -/

theorem getLast?_append_of_ne_nil {α} (a b : List α) (h : b ≠ []) : (a ++ b).getLast? = b.getLast? := by
  rw [List.getLast?_append, List.getLast?_eq_some_getLast h]; rfl

theorem getLast?_of_suffix {α} {L S : List α} (hsuf : S <:+ L) (hne : S ≠ []) : S.getLast? = L.getLast? := by
  obtain ⟨t, rfl⟩ := hsuf
  exact (getLast?_append_of_ne_nil t S hne).symm

/-! ### strictly increasing lists of numbers -/

theorem le_of_mem_sorted_cons {x y : Nat} {S : List Nat} (hs : List.Pairwise (· < ·) (x :: S))
    (hy : y ∈ x :: S) : x ≤ y := by
  rcases List.mem_cons.mp hy with rfl | h
  · exact Nat.le_refl _
  · exact Nat.le_of_lt (List.rel_of_pairwise_cons hs h)

theorem mem_suffix_of_le {L S' : List Nat} {x y : Nat} (hs : List.Pairwise (· < ·) L)
    (hsuf : (x :: S') <:+ L) (hy : y ∈ L) (hxy : x ≤ y) : y ∈ x :: S' := by
  obtain ⟨t, rfl⟩ := hsuf
  rcases List.mem_append.mp hy with h | h
  · exact absurd (hs.rel_of_mem_append h List.mem_cons_self) (Nat.not_lt.mpr hxy)
  · exact h

theorem le_getLast?_of_sorted {L : List Nat} {v : Nat} (hs : List.Pairwise (· < ·) L) (hl : L.getLast? = some v) :
    ∀ x ∈ L, x ≤ v := by
  intro x hx
  obtain ⟨t, rfl⟩ := List.getLast?_eq_some_iff.mp hl
  rcases List.mem_append.mp hx with h | h
  · exact Nat.le_of_lt (hs.rel_of_mem_append h (List.mem_singleton_self v))
  · exact Nat.le_of_eq (List.mem_singleton.mp h)

theorem getElem_le_of_sorted {l : List Nat} (hs : List.Pairwise (· < ·) l) {p q : Nat} (hpq : p ≤ q)
    (hq : q < l.length) : l[p]'(Nat.lt_of_le_of_lt hpq hq) ≤ l[q] := by
  rcases Nat.lt_or_eq_of_le hpq with h | rfl
  · exact Nat.le_of_lt (List.pairwise_iff_getElem.mp hs p q _ hq h)
  · exact Nat.le_refl _

theorem getD_le_of_sorted {l : List Nat} (hs : List.Pairwise (· < ·) l) {p q : Nat} (hpq : p ≤ q)
    (hq : q < l.length) : l.getD p 0 ≤ l.getD q 0 := by
  rw [List.getD_eq_getElem?_getD, List.getD_eq_getElem?_getD,
    List.getElem?_eq_getElem (Nat.lt_of_le_of_lt hpq hq), List.getElem?_eq_getElem hq]
  exact getElem_le_of_sorted hs hpq hq

/-! ### ranges, `take` and `drop` -/

theorem mem_range'_sub {a e x : Nat} : x ∈ List.range' a (e - a) ↔ a ≤ x ∧ x < e := by
  rw [List.mem_range'_1]; omega

theorem range_drop (n k : Nat) : (List.range n).drop k = List.range' k (n - k) := by
  rw [List.range_eq_range', List.drop_range']; simp

theorem take_drop_split {α} (l : List α) (a b e : Nat) (hab : a ≤ b) (hbe : b ≤ e) :
    (l.drop a).take (b - a) ++ (l.drop b).take (e - b) = (l.drop a).take (e - a) := by
  obtain ⟨k, rfl⟩ := Nat.exists_eq_add_of_le hab
  obtain ⟨m, rfl⟩ := Nat.exists_eq_add_of_le hbe
  rw [Nat.add_sub_cancel_left, Nat.add_sub_cancel_left, Nat.add_assoc, Nat.add_sub_cancel_left,
    List.take_add, List.drop_drop]

theorem mapIdx_const {α β : Type} (f : α → β) (l : List α) : (l.mapIdx fun _ a => f a) = l.map f :=
  List.mapIdx_eq_iff.mpr fun _ => List.getElem?_map

/-- `l.all p` by the recursor of `List`, for the long generated tables: the kernel evaluates it at well
    under half the cost of `List.all` or of a function of one's own, which are compiled from a structural
    recursion (the code generator takes no recursor, hence `noncomputable`) -/
noncomputable def allRec {α : Type} (p : α → Bool) (l : List α) : Bool :=
  List.rec true (fun a _ ih => p a && ih) l

theorem allRec_spec {α : Type} {p : α → Bool} {l : List α} (h : allRec p l = true) : ∀ a ∈ l, p a = true := by
  induction l with
  | nil => exact fun _ ha => absurd ha List.not_mem_nil
  | cons b l ih =>
    obtain ⟨hb, hl⟩ := Bool.and_eq_true_iff.mp h
    exact List.forall_mem_cons.mpr ⟨hb, ih hl⟩

end TW
