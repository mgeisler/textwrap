/-
  What `fill_inplace` and `wrap` under the documented options (`docOpts`) have in common, per
  paragraph: the general path of `wrap` renders the slices of `inplaceGroups`
  (`wrapSingleLineSlow_docOpts`), and splitting `fill_inplace`'s output at newlines and trimming
  gives the same slices (`splitLF_segOut_para`, `splitLF_textSegs`).
-/
import Lemmas.Inplace
import Lemmas.WrapAppend
import Lemmas.Ends
namespace TW

/-- the options of `fill_inplace`'s documentation (fill.rs:86-91) -/
def docOpts (w : Nat) : Opts :=
  { width := w, initialIndent := [], subsequentIndent := [], breakWords := false, sep := .ascii,
    splitter := .none, alg := .firstFit, lineEnding := .lf }

theorem pipeline_docOpts (env : Env) (w : Nat) (p : Text) (sw : Nat) :
    pipeline env (docOpts w) p sw = some (findWordsAscii env.cw p) :=
  pipeline_of_stages sw (findWords_ascii env p) (splitWords_nopoints env .none _ fun x hx => by
    obtain ⟨t, _, rfl⟩ := List.mem_map.mp hx; exact ⟨rfl, rfl⟩)

section
variable (α : Type) [CostNum α]

/-- `wrap` hands first-fit the widths of the first and of the later lines, `fill_inplace` one width -/
theorem firstFit_two_eq_one (words : List Word) (w : Nat) :
    wrapFirstFit (fragOf (α := α)) words (List.map CostNum.ofNat [w, w]) =
      wrapFirstFit (fragOf (α := α)) words [CostNum.ofNat w] := by
  unfold wrapFirstFit
  apply ffGo_congr_lws
  intro k
  -- line `k` is `w` wide on both sides: from the list, or as the default (the last entry)
  match k with
  | 0 => rfl
  | 1 => rfl
  | k + 2 => rfl

theorem wrapSingleLineSlow_docOpts (env : Env) (mo : MinimaOracle α) (w : Nat) (p : Text) (n : Nat) :
    (wrapSingleLineSlow env mo (docOpts w) p n).map (·.map LineD.render) =
      some ((inplaceGroups α env.cw w p).map groupSlice) := by
  have hflat : (inplaceGroups α env.cw w p).flatten = findWordsAscii env.cw p := (inplaceGroups_ok α env.cw w p).1
  have hg : wrapAlg mo (docOpts w).alg (findWordsAscii env.cw p) (lineWidths env (docOpts w) n) =
      some (inplaceGroups α env.cw w p) := by
    have hlw : lineWidths env (docOpts w) n = [w, w] := by
      simp [lineWidths, docOpts, displayWidth, dwFrom]
    rw [hlw, show (docOpts w).alg = .firstFit from rfl]
    exact congrArg some (firstFit_two_eq_one α _ w)
  rw [wrapSingleLineSlow_of_groups (pipeline_docOpts env w p _) (findWordsAscii_text env.cw p) hg hflat,
    Option.map_some, Option.some.injEq]
  have hnp : ∀ g ∈ inplaceGroups α env.cw w p, NoPen g := by
    intro g hg x hx
    have : x ∈ findWordsAscii env.cw p := by rw [← hflat]; exact List.mem_flatten.mpr ⟨g, hg, hx⟩
    obtain ⟨t, _, rfl⟩ := List.mem_map.mp this; rfl
  rw [specLines_render _ _ 0 n (fun g hg => groupPen_eq_nil g (hnp g hg))]
  simp only [indentOf_eq_nil (docOpts w) rfl rfl, List.nil_append, mapIdx_const]

end

theorem splitLF_segOut_para (groups : List (List Word)) (hne : groups ≠ [])
    (hend : ∀ g ∈ groups.dropLast, (wordsText g).getLast? = some SP)
    (h : ∀ g ∈ groups, LF ∉ wordsText g ∧ (groupSlice g).getLast? ≠ some SP ∧ ∀ c ∈ groupGap g, c = SP) :
    (splitLF (segOut (paraSegs groups))).map trimEndSp = groups.map groupSlice := by
  fun_induction paraSegs groups with
  | case1 => exact absurd rfl hne
  | case2 g =>
    obtain ⟨hno, hsl, hgap⟩ := h g (by simp)
    rw [segOut, segOut, List.append_nil, splitLF_of_noLF _ hno, List.map_singleton, (group_trim g hsl hgap).1]
    rfl
  | case3 g g2 gs ih =>
    obtain ⟨hno, hsl, hgap⟩ := h g (by simp)
    rw [segOut, List.append_assoc, List.singleton_append, splitLF_append,
      splitLF_of_noLF _ fun hm => hno (List.dropLast_subset _ hm), List.map_append, List.map_singleton,
      (group_trim g hsl hgap).2 (hend g (by simp)),
      ih (by simp) (fun g' hg' => hend g' (List.mem_cons_of_mem g hg')) fun x hx => h x (List.mem_cons_of_mem g hx)]
    rfl

section
variable (α : Type) [CostNum α]

/-- the groups of a paragraph are runs of its ASCII words -/
theorem splitLF_segOut_inplaceGroups (env : Env) (w : Nat) {p : Text} (hp : LF ∉ p) :
    (splitLF (segOut (paraSegs (inplaceGroups α env.cw w p)))).map trimEndSp =
      (inplaceGroups α env.cw w p).map groupSlice := by
  obtain ⟨g1, g2⟩ := inplaceGroups_ok α env.cw w p
  have hfe := pipeline_ends_ascii (o := docOpts w) rfl (by simp [docOpts, Builtin]) (pipeline_docOpts env w p 0)
  refine splitLF_segOut_para _ (wrapFirstFit_ne_nil _ _ _) g2 fun g hg => ?_
  obtain ⟨pre, post, hpp⟩ := List.append_of_mem hg
  have e : findWordsAscii env.cw p = pre.flatten ++ g ++ post.flatten := by rw [← g1, hpp]; simp
  refine ⟨fun hmem => hp ?_, groupSlice_noTrail hfe.1 hfe.2 e, groupGap_spaces env.cw g fun x hx => ?_⟩
  · rw [← findWordsAscii_text env.cw p, e, wordsText_append, wordsText_append]
    exact List.mem_append_left _ (List.mem_append_right _ hmem)
  · obtain ⟨t, _, rfl⟩ := List.mem_map.mp (show x ∈ findWordsAscii env.cw p by rw [e]; simp [hx])
    exact from_fragOk _ t

theorem splitLF_textSegs (env : Env) (w : Nat) {ps : List Text} (hne : ps ≠ []) (hno : ∀ p ∈ ps, LF ∉ p) :
    (splitLF (segOut (textSegs α env.cw w ps))).map trimEndSp =
      (ps.map fun p => (inplaceGroups α env.cw w p).map groupSlice).flatten := by
  rw [textSegs_hom α segOut segOut_append rfl, splitLF_joinWith_flatten _ (by simpa using hne), List.map_flatten, List.map_map, List.map_map]
  exact congrArg List.flatten (List.map_congr_left fun p hp => splitLF_segOut_inplaceGroups α env w (hno p hp))

end
end TW
