/-
  Paragraphs of single-space separated words under the options of the `unfill ∘ fill` round trip
  (ASCII separator, no split points in the words, `break_words` off): the `fill` half of C15. The
  separator finds exactly the words, the pipeline returns them, the slices of any partition into
  groups, joined by single spaces, give the paragraph back, and every slice is a line body.
-/
import Lemmas.WrapLine
import Lemmas.Unfill
namespace TW

/-- a word of the paragraph: non-empty, no space, no line break characters, and it does not
    begin with a prefix character -/
def WordOk (w : Text) : Prop :=
  (∃ c r, w = c :: r ∧ isPrefixChar c = false) ∧ SP ∉ w ∧ LF ∉ w ∧ CR ∉ w

theorem WordOk.ne_nil {w : Text} (h : WordOk w) : w ≠ [] := by
  obtain ⟨⟨c, r, rfl, _⟩, _⟩ := h; simp

/-! ### the ASCII separator and the pipeline on single-spaced words -/

/-- the pieces `AsciiSpace` cuts the paragraph into: every word but the last keeps its single space -/
def withSpaces : List Text → List Text
  | [] => []
  | [w] => [w]
  | w :: b :: r => (w ++ [SP]) :: withSpaces (b :: r)

/-- `joinWith_consHead` with `consHead` unfolded, to rewrite with -/
theorem joinWith_head_cons (sep : Text) (d : Char) (a : Text) (r : List Text) :
    joinWith sep ((d :: a) :: r) = d :: joinWith sep (a :: r) :=
  joinWith_consHead sep d (a :: r) (List.cons_ne_nil a r)

theorem asciiGo_space (cur rest : Text) {d : Char} (hd : d ≠ SP) :
    asciiGo cur false (SP :: d :: rest) = (cur ++ [SP]) :: asciiGo [] false (d :: rest) := by
  simp [asciiGo, hd, beq_eq_false_iff_ne.mpr hd]

/-- `cur` is there for the induction, which re-enters the loop after each space with `cur = []` -/
theorem asciiGo_join (cur w : Text) (r : List Text) (hw : WordOk w) (hr : ∀ x ∈ r, WordOk x) :
    asciiGo cur false (joinWith [SP] (w :: r)) = withSpaces ((cur ++ w) :: r) := by
  induction r generalizing cur w with
  | nil =>
    have := asciiGo_word cur w [] hw.2.1
    rw [List.append_nil] at this
    simp [this, asciiGo, withSpaces, hw.ne_nil]
  | cons w2 r' ih =>
    obtain ⟨⟨d, w2', rfl, _⟩, hsp2, _, _⟩ := hr w2 (by simp)
    rw [joinWith_cons_cons, joinWith_head_cons, List.append_assoc, asciiGo_word cur w _ hw.2.1,
      List.singleton_append, asciiGo_space _ _ fun e => hsp2 (by simp [e]), ← joinWith_head_cons,
      ih [] (d :: w2') (hr _ (by simp)) fun x hx => hr x (by simp [hx])]
    simp [withSpaces]

def mkWord (cw : Char → Nat) (w sp : Text) : Word :=
  { word := w, ws := sp, pen := [], width := displayWidth cw w }

/-- the `Word`s of a single-spaced paragraph: every word but the last carries one space -/
def mkWords (cw : Char → Nat) : List Text → List Word
  | [] => []
  | [w] => [mkWord cw w []]
  | w :: b :: r => mkWord cw w [SP] :: mkWords cw (b :: r)

theorem Word.from_of_noSP (cw : Char → Nat) (w : Text) (h : SP ∉ w) : Word.from cw w = mkWord cw w [] := by
  simpa [mkWord] using Word.from_append_spaces cw (sp := []) (fun hl => h (List.mem_of_getLast? hl)) (by simp)

theorem Word.from_append_SP (cw : Char → Nat) (w : Text) (h : SP ∉ w) : Word.from cw (w ++ [SP]) = mkWord cw w [SP] :=
  Word.from_append_spaces cw (fun hl => h (List.mem_of_getLast? hl)) (by simp)

theorem map_from_withSpaces (cw : Char → Nat) (ws : List Text) (h : ∀ w ∈ ws, SP ∉ w) :
    (withSpaces ws).map (Word.from cw) = mkWords cw ws := by
  fun_induction mkWords cw ws with
  | case1 => rfl
  | case2 w => simp [withSpaces, Word.from_of_noSP cw w (h w (by simp))]
  | case3 w b r ih =>
    rw [withSpaces, List.map_cons, Word.from_append_SP cw w (h w (by simp)), ih fun x hx => h x (by simp [hx])]

theorem findWordsAscii_join (cw : Char → Nat) (ws : List Text) (hne : ws ≠ []) (hws : ∀ w ∈ ws, WordOk w) :
    findWordsAscii cw (joinWith [SP] ws) = mkWords cw ws := by
  unfold findWordsAscii
  cases ws with
  | nil => exact absurd rfl hne
  | cons w r =>
    rw [asciiGo_join [] w r (hws w (by simp)) (fun x hx => hws x (by simp [hx]))]
    exact map_from_withSpaces cw (w :: r) (fun x hx => (hws x hx).2.1)

theorem mkWords_forall {cw : Char → Nat} {ws : List Text} {P : Word → Prop}
    (h : ∀ w ∈ ws, ∀ sp, sp = [] ∨ sp = [SP] → P (mkWord cw w sp)) : ∀ W ∈ mkWords cw ws, P W := by
  fun_induction mkWords cw ws with
  | case1 => exact fun _ hW => nomatch hW
  | case2 a => exact List.forall_mem_singleton.mpr (h a (by simp) [] (Or.inl rfl))
  | case3 a b r ih =>
    exact List.forall_mem_cons.mpr ⟨h a (by simp) [SP] (Or.inr rfl), ih fun w hw => h w (by simp [hw])⟩

theorem wordsText_mkWords (cw : Char → Nat) (ws : List Text) : wordsText (mkWords cw ws) = joinWith [SP] ws := by
  fun_induction mkWords cw ws with
  | case1 => rfl
  | case2 w => simp [mkWord]
  | case3 w b r ih =>
    rw [joinWith_cons_cons, wordsText_cons, ih]
    simp [mkWord]

theorem mkWords_ne_nil (cw : Char → Nat) {ws : List Text} (h : ws ≠ []) : mkWords cw ws ≠ [] := by
  fun_induction mkWords cw ws with
  | case1 => exact absurd rfl h
  | case2 w => exact List.cons_ne_nil _ _
  | case3 w b r => exact List.cons_ne_nil _ _

theorem pipeline_words (env : Env) (o : Opts) (hsep : o.sep = .ascii) (hbw : o.breakWords = false)
    (ws : List Text) (hne : ws ≠ []) (hws : ∀ w ∈ ws, WordOk w)
    (hpts : ∀ w ∈ ws, o.splitter.points env.isAlnum w = []) (sw : Nat) :
    pipeline env o (joinWith [SP] ws) sw = some (mkWords env.cw ws) := by
  rw [pipeline_of_stages sw (by rw [hsep, findWords_ascii, findWordsAscii_join env.cw ws hne hws])
    (splitWords_nopoints env o.splitter _ (mkWords_forall fun w hw _ _ => ⟨hpts w hw, rfl⟩))]
  simp [hbw]

/-! ### groups of single-spaced words -/

def SpacedL : List Word → Prop
  | [] => True
  | [x] => x.ws = []
  | x :: y :: r => x.ws = [SP] ∧ SpacedL (y :: r)

theorem SpacedL.of_mkWords (cw : Char → Nat) (ws : List Text) : SpacedL (mkWords cw ws) := by
  fun_induction mkWords cw ws with
  | case1 => trivial
  | case2 w => rfl
  | case3 w b r ih =>
    -- `mkWords cw (b :: r)` is a `cons` only once `r` is known to be empty or not
    cases r <;> exact ⟨rfl, ih⟩

theorem SpacedL.suffix (A B : List Word) (h : SpacedL (A ++ B)) : SpacedL B := by
  induction A with
  | nil => exact h
  | cons a A' ih =>
    cases hAB : A' ++ B with
    | nil =>
      rw [(List.append_eq_nil_iff.mp hAB).2]
      trivial
    | cons y r =>
      rw [List.cons_append, hAB] at h
      exact ih (hAB ▸ h.2)

theorem groupGap_of_spaced (g : List Word) (hg : g ≠ []) (post : List Word) (h : SpacedL (g ++ post)) :
    groupGap g = if post = [] then [] else [SP] := by
  unfold groupGap
  cases hl : g.getLast? with
  | none => exact absurd (List.getLast?_eq_none_iff.mp hl) hg
  | some last =>
    obtain ⟨g', rfl⟩ := List.getLast?_eq_some_iff.mp hl
    have := SpacedL.suffix g' (last :: post) (by simpa using h)
    cases post with
    | nil => simpa [SpacedL] using this
    | cons y r => simpa [SpacedL] using this.1

theorem join_groupSlices (G : List (List Word)) (hne : G ≠ []) (hg : ∀ g ∈ G, g ≠ [])
    (h : SpacedL G.flatten) : joinWith [SP] (G.map groupSlice) = wordsText G.flatten := by
  induction G with
  | nil => exact absurd rfl hne
  | cons g r ih =>
    have hgap := groupGap_of_spaced g (hg g (by simp)) r.flatten h
    rw [List.flatten_cons, wordsText_append, group_text g, hgap]
    cases r with
    | nil => simp
    | cons g2 r' =>
      have hpost : (g2 :: r').flatten ≠ [] := fun he => hg g2 (by simp) (List.append_eq_nil_iff.mp he).1
      rw [List.map_cons, List.map_cons, joinWith_cons_cons, ← List.map_cons,
        ih (by simp) (fun x hx => hg x (by simp [hx])) (SpacedL.suffix g _ h), if_neg hpost]

theorem groupSlice_bodyOk {g : List Word} (hg : g ≠ [])
    (hW : ∀ W ∈ g, WordOk W.word ∧ ∀ c ∈ W.ws, c = SP) : BodyOk (groupSlice g) := by
  have hno : ∀ c, c ≠ SP → (∀ W ∈ g, c ∉ W.word) → c ∉ groupSlice g := by
    intro c hc hn h
    have hm : c ∈ wordsText g := by rw [group_text g]; exact List.mem_append_left _ h
    simp only [wordsText, List.mem_flatten, List.mem_map] at hm
    obtain ⟨t, ⟨W, hWg, rfl⟩, hct⟩ := hm
    rcases List.mem_append.mp hct with h | h
    · exact hn W hWg h
    · exact hc ((hW W hWg).2 c h)
  refine ⟨?_, hno LF (by decide) fun W hWg => (hW W hWg).1.2.2.1,
    hno CR (by decide) fun W hWg => (hW W hWg).1.2.2.2⟩
  -- the slice begins as the first fragment does: the first of `pre`, or `last`
  obtain ⟨pre, last, rfl⟩ := (List.eq_nil_or_concat g).resolve_left hg
  rw [List.concat_eq_append, groupSlice, List.getLast?_concat, List.dropLast_concat]
  cases pre with
  | nil => exact (hW last (by simp)).1.1
  | cons x r =>
    obtain ⟨⟨c, t, hx, hc⟩, _⟩ := (hW x (by simp)).1
    exact ⟨c, _, by rw [wordsText_cons, hx]; rfl, hc⟩

theorem slices_of_partition (cw : Char → Nat) {ws : List Text} (hws : ∀ w ∈ ws, WordOk w)
    {G : List (List Word)} (hflat : G.flatten = mkWords cw ws) (hne : G ≠ []) (hg : ∀ g ∈ G, g ≠ []) :
    (∀ g ∈ G, groupPen g = [] ∧ BodyOk (groupSlice g)) ∧
      joinWith [SP] (G.map groupSlice) = joinWith [SP] ws := by
  have hW : ∀ W ∈ mkWords cw ws, W.pen = [] ∧ WordOk W.word ∧ ∀ c ∈ W.ws, c = SP :=
    mkWords_forall fun w hw _ hsp => ⟨rfl, hws w hw, by rcases hsp with rfl | rfl <;> simp [mkWord]⟩
  have hsub : ∀ g ∈ G, ∀ W ∈ g, W ∈ mkWords cw ws :=
    fun g hgG W hWg => hflat ▸ List.mem_flatten.mpr ⟨g, hgG, hWg⟩
  refine ⟨fun g hgG => ⟨groupPen_eq_nil g fun W hWg => (hW W (hsub g hgG W hWg)).1,
    groupSlice_bodyOk (hg g hgG) fun W hWg => (hW W (hsub g hgG W hWg)).2⟩, ?_⟩
  rw [join_groupSlices G hne hg (hflat ▸ SpacedL.of_mkWords cw ws), hflat, wordsText_mkWords]

/-! ### the paragraph `joinWith [SP] ws` as a whole -/

theorem joinWith_SP_noBreak (ws : List Text) (hws : ∀ w ∈ ws, WordOk w) :
    LF ∉ joinWith [SP] ws ∧ CR ∉ joinWith [SP] ws :=
  ⟨not_mem_joinWith (by decide) fun w hw => (hws w hw).2.2.1,
    not_mem_joinWith (by decide) fun w hw => (hws w hw).2.2.2⟩

theorem joinWith_SP_bodyOk (ws : List Text) (hne : ws ≠ []) (hws : ∀ w ∈ ws, WordOk w) :
    BodyOk (joinWith [SP] ws) := by
  obtain ⟨h1, h2⟩ := joinWith_SP_noBreak ws hws
  refine ⟨?_, h1, h2⟩
  cases ws with
  | nil => exact absurd rfl hne
  | cons w r =>
    obtain ⟨⟨c, t, rfl, hc⟩, _⟩ := hws w (by simp)
    exact ⟨c, _, joinWith_head_cons _ _ _ _, hc⟩

theorem joinWith_SP_no_trailing_sp (ws : List Text) (hne : ws ≠ []) (hws : ∀ w ∈ ws, WordOk w) :
    (joinWith [SP] ws).getLast? ≠ some SP := by
  cases hl : ws.getLast? with
  | none => exact absurd (List.getLast?_eq_none_iff.mp hl) hne
  | some l =>
    have hlm := List.mem_of_getLast? hl
    rw [joinWith_getLast _ _ l hl (hws l hlm).ne_nil]
    exact fun hl => (hws l hlm).2.1 (List.mem_of_getLast? hl)

end TW
