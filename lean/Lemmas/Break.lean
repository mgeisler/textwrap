/-
  Lemmas about `Word::break_apart`: what its loop `breakGo` yields (`BreakOK`), that nothing is
  lost, and that every piece is a contiguous part of the word.
-/
import TextwrapModel.Word
import Lemmas.Ansi
namespace TW

variable (cw : Char → Nat) (limit : Nat) (ws pen : Text)

/-- number of visible characters of non-zero width, scanning from state `s` -/
def nzFrom (cw : Char → Nat) : Ansi → Text → Nat
  | _, [] => 0
  | s, c :: cs => (if (s.step c).2 && decide (0 < cw c) then 1 else 0) + nzFrom cw (s.step c).1 cs

theorem nzFrom_append (s : Ansi) (a b : Text) :
    nzFrom cw s (a ++ b) = nzFrom cw s a + nzFrom cw (s.run a) b := by
  induction a generalizing s with
  | nil => simp [nzFrom]
  | cons c cs ih => simp [nzFrom, ih, Nat.add_assoc]

theorem dwFrom_eq_zero_iff (s : Ansi) (t : Text) :
    dwFrom cw s t = 0 ↔ nzFrom cw s t = 0 := by
  induction t generalizing s with
  | nil => simp [dwFrom, nzFrom]
  | cons c cs ih =>
    simp only [dwFrom, nzFrom, Nat.add_eq_zero_iff, ih]
    cases (s.step c).2 <;> simp

theorem dwFrom_zero_of_nz (cw : Char → Nat) (s : Ansi) (t : Text) (h : nzFrom cw s t = 0) :
    dwFrom cw s t = 0 := (dwFrom_eq_zero_iff cw s t).mpr h

/-- the pieces `break_apart` yields, as a chain: every piece but the last ends in skipper state
    `normal`, has positive cached width, is followed by a piece whose first character is visible
    and would not have fitted; every piece is non-empty, caches its display width, and is within
    the limit unless it holds a single non-zero-width character (the guard `width > 0 &&` of
    core.rs:303: no cut while nothing of the piece has a width yet, so its first character of
    non-zero width is taken whatever the limit); whitespace and penalty sit on the last piece only. -/
def BreakOK (cw : Char → Nat) (limit : Nat) (ws pen : Text) : List Word → Prop
  | [] => True
  | [p] => p.width = displayWidth cw p.word ∧ p.ws = ws ∧ p.pen = pen ∧ p.word ≠ [] ∧
      (p.width ≤ limit ∨ nzFrom cw .normal p.word = 1)
  | p :: q :: r =>
      p.width = displayWidth cw p.word ∧ p.ws = [] ∧ p.pen = [] ∧ p.word ≠ [] ∧
      (p.width ≤ limit ∨ nzFrom cw .normal p.word = 1) ∧
      Ansi.run .normal p.word = .normal ∧ 0 < p.width ∧
      (∃ c cs, q.word = c :: cs ∧ c ≠ ESC ∧ limit < p.width + cw c) ∧
      BreakOK cw limit ws pen (q :: r)

/-- `BreakOK` is read through this lemma (what it says of every single piece) and `breakOK_shape`
    (of their order) -/
theorem breakOK_mem {cw : Char → Nat} {limit : Nat} {ws pen : Text} {ps : List Word}
    (h : BreakOK cw limit ws pen ps) : ∀ p ∈ ps,
      p.width = displayWidth cw p.word ∧ p.word ≠ [] ∧ (p.width ≤ limit ∨ nzFrom cw .normal p.word = 1) ∧
        (p.ws = [] ∨ p.ws = ws) ∧ (p.pen = [] ∨ p.pen = pen) := by
  fun_induction BreakOK cw limit ws pen ps with
  | case1 => nofun
  | case2 p =>
    obtain ⟨h1, h2, h3, h4, h5⟩ := h
    exact List.forall_mem_singleton.mpr ⟨h1, h4, h5, Or.inr h2, Or.inr h3⟩
  | case3 p q r ih =>
    obtain ⟨h1, h2, h3, h4, h5, _, _, _, h9⟩ := h
    exact List.forall_mem_cons.mpr ⟨⟨h1, h4, h5, Or.inl h2, Or.inl h3⟩, ih h9⟩

theorem breakOK_shape (ps : List Word) (hne : ps ≠ [])
    (h : BreakOK cw limit ws pen ps) :
    ∃ fpre l, ps = fpre ++ [l] ∧ l.ws = ws ∧ (∀ f ∈ fpre, f.ws = [] ∧ Ansi.run .normal f.word = .normal) ∧
      Ansi.run .normal (fpre.map (·.word)).flatten = .normal := by
  fun_induction BreakOK cw limit ws pen ps with
  | case1 => exact absurd rfl hne
  | case2 p => exact ⟨[], p, rfl, h.2.1, nofun, rfl⟩
  | case3 p q r ih =>
    obtain ⟨_, h2, _, _, _, h6, _, _, h9⟩ := h
    obtain ⟨fpre, l, e1, e2, e3, e4⟩ := ih (List.cons_ne_nil q r) h9
    exact ⟨p :: fpre, l, by rw [e1]; rfl, e2, List.forall_mem_cons.mpr ⟨⟨h2, h6⟩, e3⟩,
      by rw [List.map_cons, List.flatten_cons, run_append, h6, e4]⟩

/-! ### the loop after it has read `cur`

Skipper state and width in `breakGo` are those of the text `cur` read since the last cut, so the
loop has one accumulator, not three: `breakFrom cur rest` (`breakGo_eq`). -/

/-- having read `cur`, the loop cuts before `c` (core.rs:303) -/
abbrev CutBefore (cur : Text) (c : Char) : Prop :=
  ((Ansi.run .normal cur).step c).2 = true ∧ 0 < displayWidth cw cur ∧ limit < displayWidth cw cur + cw c

def breakFrom (cur : Text) : Text → List Word
  | [] => if cur.isEmpty then [] else [{ word := cur, width := displayWidth cw cur, ws := ws, pen := pen }]
  | c :: cs =>
    if CutBefore cw limit cur c then
      { word := cur, width := displayWidth cw cur, ws := [], pen := [] } :: breakFrom [c] cs
    else breakFrom (cur ++ [c]) cs

theorem breakGo_eq (cur rest : Text) :
    breakGo cw limit ws pen (Ansi.run .normal cur) cur (displayWidth cw cur) rest =
      breakFrom cw limit ws pen cur rest := by
  -- the cases of `breakFrom`: the text ends and `cur` is empty, or is not; a cut before `c`; no cut
  fun_induction breakFrom cw limit ws pen cur rest with
  | case1 cur h => simp [breakGo, h]
  | case2 cur h => simp [breakGo, h]
  | case3 cur c cs hcut ih =>
    -- after a cut the loop stands at `[c]` in state `normal` with the width of `c`
    obtain ⟨hs, hc⟩ := (step_visible_iff _ c).mp hcut.1
    rw [← ih, breakGo, hs, step_normal hc, if_pos rfl, if_pos hcut.2]
    simp [displayWidth, dwFrom, step_normal hc]
  | case4 cur c cs hcut ih =>
    rw [← ih, run_snoc, displayWidth_snoc, breakGo]
    by_cases hv : ((Ansi.run .normal cur).step c).2 = true
    · rw [if_pos hv, if_pos hv, if_neg fun h => hcut ⟨hv, h⟩]
    · rw [if_neg hv, if_neg hv, Nat.add_zero]

theorem breakApart_eq (w : Word) : breakApart cw limit w = breakFrom cw limit w.ws w.pen [] w.word :=
  breakGo_eq cw limit w.ws w.pen [] w.word

theorem breakFrom_flatten (cur rest : Text) :
    ((breakFrom cw limit ws pen cur rest).map (·.word)).flatten = cur ++ rest := by
  fun_induction breakFrom cw limit ws pen cur rest with
  | case1 cur h => simpa using h.symm
  | case2 => simp
  | case3 _ _ _ _ ih => simp [ih]
  | case4 _ _ _ _ ih => simp [ih]

theorem breakFrom_head (cur rest : Text) (h : cur ≠ [] ∨ rest ≠ []) :
    ∃ x p r, breakFrom cw limit ws pen cur rest = p :: r ∧ p.word = cur ++ x := by
  fun_induction breakFrom cw limit ws pen cur rest with
  | case1 => simp_all
  | case2 => exact ⟨[], _, [], rfl, by simp⟩
  | case3 => exact ⟨[], _, _, rfl, by simp⟩
  | case4 cur c cs _ ih =>
    obtain ⟨x, p, r, h1, h2⟩ := ih (Or.inl (by simp))
    exact ⟨c :: x, p, r, h1, by simp [h2]⟩

/-- the bound on a piece survives a step without a cut (for `cur = []`: a first character is never
    cut off, whatever its width) -/
theorem breakBound_snoc (cur : Text) (c : Char)
    (hb : displayWidth cw cur ≤ limit ∨ nzFrom cw .normal cur = 1)
    (hno : ¬ CutBefore cw limit cur c) :
    displayWidth cw (cur ++ [c]) ≤ limit ∨ nzFrom cw .normal (cur ++ [c]) = 1 := by
  rw [displayWidth_snoc, nzFrom_append]
  by_cases hv : ((Ansi.run .normal cur).step c).2 = true
  · simp only [CutBefore, hv, true_and, if_true] at hno ⊢
    by_cases hw0 : 0 < displayWidth cw cur
    · left; omega
    · by_cases hc0 : 0 < cw c
      · -- `cur` has no visible character of non-zero width, `c` is the single one
        have hz : nzFrom cw .normal cur = 0 := (dwFrom_eq_zero_iff cw .normal cur).mp (Nat.eq_zero_of_not_pos hw0)
        right; simp [hz, nzFrom, hv, hc0]
      · left; omega
  · simpa [nzFrom, hv] using hb

theorem breakFrom_ok (cur rest : Text) (hb : displayWidth cw cur ≤ limit ∨ nzFrom cw .normal cur = 1) :
    BreakOK cw limit ws pen (breakFrom cw limit ws pen cur rest) := by
  fun_induction breakFrom cw limit ws pen cur rest with
  | case1 => trivial
  | case2 cur h => exact ⟨rfl, rfl, rfl, by simpa using h, hb⟩
  | case3 cur c cs hcut ih =>
    obtain ⟨hsn, hcE⟩ := (step_visible_iff _ c).mp hcut.1
    have hcur : cur ≠ [] := fun h => by simp [CutBefore, h] at hcut
    obtain ⟨x, p, r, h1, h2⟩ := breakFrom_head cw limit ws pen [c] cs (Or.inl (by simp))
    have hrec := ih (breakBound_snoc cw limit [] c (Or.inl (Nat.zero_le _)) (by simp [CutBefore]))
    rw [h1] at hrec ⊢
    exact ⟨rfl, rfl, rfl, hcur, hb, hsn, hcut.2.1, ⟨c, x, by simpa using h2, hcE, hcut.2.2⟩, hrec⟩
  | case4 cur c cs hno ih => exact ih (breakBound_snoc cw limit cur c hb hno)

theorem breakApart_ok (w : Word) :
    BreakOK cw limit w.ws w.pen (breakApart cw limit w) :=
  breakApart_eq cw limit w ▸ breakFrom_ok cw limit w.ws w.pen [] w.word (Or.inl (Nat.zero_le _))

theorem breakApart_flatten (w : Word) :
    ((breakApart cw limit w).map (·.word)).flatten = w.word :=
  breakApart_eq cw limit w ▸ breakFrom_flatten cw limit w.ws w.pen [] w.word

theorem breakApart_ne_nil (w : Word) (hne : w.word ≠ []) :
    breakApart cw limit w ≠ [] :=
  fun he => hne (by simpa [he] using (breakApart_flatten cw limit w).symm)

theorem breakApart_part (w : Word) :
    ∀ p ∈ breakApart cw limit w, ∃ A B, w.word = A ++ p.word ++ B := by
  intro p hp
  obtain ⟨l1, l2, e⟩ := List.append_of_mem hp
  exact ⟨(l1.map (·.word)).flatten, (l2.map (·.word)).flatten, by rw [← breakApart_flatten cw limit w, e]; simp⟩

theorem breakApart_sub (cw : Char → Nat) (limit : Nat) (w : Word) :
    ∀ p ∈ breakApart cw limit w, ∀ c ∈ p.word, c ∈ w.word := by
  intro p hp c hc
  obtain ⟨A, B, e⟩ := breakApart_part cw limit w p hp
  rw [e]; simp [hc]

end TW
