/-
  What `smawk_inner` returns on totally monotone input: the left-most minimum row of every column
  (`smawkInner_min`). Values are integers (the setting of C03: every cost exactly representable).
  That the functions return is Lemmas/Smawk.lean; here a run that returned is read backwards.
  A left-most minimum is the least row in the order `LexLe` by (value, row) (`leftMin_iff`).
  Interpolation: the scan of an even column keeps the least of the rows seen. Reduce: every row
  processed is dominated in that order by a row on the stack (`RedInv`; `PopDom` while a row pops
  the stack), and the least of dominating rows is the least of all (`LeftMin.of_dom`).
  Total monotonicity is used in the strict form that textwrap's matrix satisfies
  (Lemmas/OptimalCore.lean, `tm_strict_chain`): `f i' j < f i j → f i' j' < f i j'` for rows
  `i < i'` and columns `j < j'`.
-/
import Lemmas.Smawk
namespace TW

def MVal (m : Nat → Nat → Option Int) (f : Nat → Nat → Int) (rows cols : List Nat) : Prop :=
  ∀ r ∈ rows, ∀ c ∈ cols, m r c = some (f r c)

def TMon (f : Nat → Nat → Int) (rows cols : List Nat) : Prop :=
  ∀ i ∈ rows, ∀ i' ∈ rows, i < i' → ∀ j ∈ cols, ∀ j' ∈ cols, j < j' → f i' j < f i j → f i' j' < f i j'

def LeftMin (f : Nat → Nat → Int) (rows : List Nat) (c r : Nat) : Prop :=
  r ∈ rows ∧ (∀ x ∈ rows, f r c ≤ f x c) ∧ (∀ x ∈ rows, x < r → f r c < f x c)

theorem MVal.total {m : Nat → Nat → Option Int} {f : Nat → Nat → Int} {rows cols : List Nat}
    (h : MVal m f rows cols) : MTotal m rows cols := fun r hr c hc => by rw [h r hr c hc]; rfl

section
variable {f : Nat → Nat → Int} {rows cols : List Nat}

theorem TMon.fwd (h : TMon f rows cols) {i i' j j' : Nat} (hi : i ∈ rows) (hi' : i' ∈ rows) (hii : i < i')
    (hj : j ∈ cols) (hj' : j' ∈ cols) (hjj : j ≤ j') (hlt : f i' j < f i j) : f i' j' < f i j' := by
  rcases Nat.lt_or_eq_of_le hjj with h1 | rfl
  · exact h i hi i' hi' hii j hj j' hj' h1 hlt
  · exact hlt

theorem TMon.back (h : TMon f rows cols) {i i' j j' : Nat} (hi : i ∈ rows) (hi' : i' ∈ rows) (hii : i < i')
    (hj : j ∈ cols) (hj' : j' ∈ cols) (hjj : j ≤ j') (hle : f i j' ≤ f i' j') : f i j ≤ f i' j :=
  Int.not_lt.mp fun hc => Int.not_lt.mpr hle (h.fwd hi hi' hii hj hj' hjj hc)

theorem TMon.mono {rows' cols' : List Nat} (h : TMon f rows cols)
    (hr : ∀ r ∈ rows', r ∈ rows) (hc : ∀ c ∈ cols', c ∈ cols) : TMon f rows' cols' :=
  fun i hi i' hi' hii j hj j' hj' hjj => h i (hr i hi) i' (hr i' hi') hii j (hc j hj) j' (hc j' hj') hjj

end

/-! ### the order by (value, row) -/

def LexLe (f : Nat → Nat → Int) (c s x : Nat) : Prop := f s c < f x c ∨ (f s c = f x c ∧ s ≤ x)

section
variable {f : Nat → Nat → Int} {c : Nat}

theorem LexLe.refl {s : Nat} : LexLe f c s s := Or.inr ⟨rfl, Nat.le_refl _⟩

theorem LexLe.trans {a b d : Nat} (h1 : LexLe f c a b) (h2 : LexLe f c b d) : LexLe f c a d := by
  rcases h1 with h1 | ⟨h1, h1'⟩
  · exact Or.inl (h2.elim (Int.lt_trans h1) fun h2 => h2.1 ▸ h1)
  · rcases h2 with h2 | ⟨h2, h2'⟩
    · exact Or.inl (h1 ▸ h2)
    · exact Or.inr ⟨h1.trans h2, Nat.le_trans h1' h2'⟩

theorem LexLe.of_le {s x : Nat} (h : f s c ≤ f x c) (hsx : s ≤ x) : LexLe f c s x :=
  (Int.lt_or_eq_of_le h).imp_right fun e => ⟨e, hsx⟩

/-- the left-most minimum is the least row in that order -/
theorem leftMin_iff {rows : List Nat} {r : Nat} :
    LeftMin f rows c r ↔ r ∈ rows ∧ ∀ x ∈ rows, LexLe f c r x := by
  constructor
  · intro h
    refine ⟨h.1, fun x hx => ?_⟩
    rcases Nat.lt_or_ge x r with hlt | hge
    · exact Or.inl (h.2.2 x hx hlt)
    · exact LexLe.of_le (h.2.1 x hx) hge
  · intro h
    refine ⟨h.1, fun x hx => ?_, fun x hx hlt => ?_⟩
    · exact (h.2 x hx).elim Int.le_of_lt fun e => Int.le_of_eq e.1
    · exact (h.2 x hx).elim id fun e => absurd hlt (Nat.not_lt.mpr e.2)

theorem LeftMin.of_dom {rows sub : List Nat} {r : Nat} (h : LeftMin f sub c r)
    (hsub : ∀ s ∈ sub, s ∈ rows) (hdom : ∀ x ∈ rows, ∃ s ∈ sub, LexLe f c s x) : LeftMin f rows c r :=
  leftMin_iff.mpr ⟨hsub r h.1, fun x hx =>
    let ⟨s, hs, hle⟩ := hdom x hx
    ((leftMin_iff.mp h).2 s hs).trans hle⟩

end

/-! ### interpolation -/

theorem tupLt_int {a : Int} {x : Nat} {b : Int} {y : Nat} :
    tupLt a x b y = true ↔ (a < b ∨ (a = b ∧ x < y)) := by
  unfold tupLt
  by_cases h : a < b
  · simp [h]
  · simp only [h, if_false, false_or]
    show (if (a == b) = true then decide (x < y) else false) = true ↔ _
    by_cases he : a = b
    · simp [he]
    · simp [he]

/-- the `if` is the `(value, row) <` test of the scan -/
theorem LeftMin.snoc {f : Nat → Nat → Int} {seen : List Nat} {c pr : Nat} (h : LeftMin f seen c pr) (x : Nat) :
    LeftMin f (seen ++ [x]) c (if tupLt (f x c) x (f pr c) pr = true then x else pr) := by
  obtain ⟨hmem, hle⟩ := leftMin_iff.mp h
  refine leftMin_iff.mpr ⟨?_, fun y hy => ?_⟩
  · split
    · exact List.mem_append_right _ List.mem_cons_self
    · exact List.mem_append_left _ hmem
  · by_cases ht : tupLt (f x c) x (f pr c) pr = true
    · rw [if_pos ht]
      rcases List.mem_append.mp hy with hy | hy
      · exact LexLe.trans ((tupLt_int.mp ht).imp_right fun e => ⟨e.1, Nat.le_of_lt e.2⟩) (hle y hy)
      · rw [List.mem_singleton.mp hy]
        exact LexLe.refl
    · rw [if_neg ht]
      rcases List.mem_append.mp hy with hy | hy
      · exact hle y hy
      · rw [List.mem_singleton.mp hy]
        rcases Int.lt_trichotomy (f pr c) (f x c) with h1 | h1 | h1
        · exact Or.inl h1
        · exact Or.inr ⟨h1, Nat.le_of_not_lt fun hlt => ht (tupLt_int.mpr (Or.inr ⟨h1.symm, hlt⟩))⟩
        · exact absurd (tupLt_int.mpr (Or.inl h1)) ht

section
variable {m : Nat → Nat → Option Int} {f : Nat → Nat → Int}

/-- what a scan that returned has done: it stopped at `lastRow`, and `best` is the left-most
    minimum of the rows it has seen, `seen` before this call and `row :: scanned` in it -/
theorem smawkScan_min (col lastRow : Nat) (rest : List Nat) :
    ∀ (row : Nat) (pv : Int) (pr : Nat) (seen : List Nat) {x best : Nat} {rest' : List Nat},
    smawkScan m col lastRow row rest pv pr = some (x, rest', best) →
    (∀ y ∈ rest, m y col = some (f y col)) → pv = f pr col → LeftMin f (seen ++ [row]) col pr →
    x = lastRow ∧ ∃ scanned, rest = scanned ++ rest' ∧ (row :: scanned).getLast? = some x ∧
      LeftMin f (seen ++ row :: scanned) col best := by
  induction rest with
  | nil =>
    intro row pv pr seen x best rest' heq _ _ hLM
    by_cases he : row = lastRow
    · subst he
      rw [smawkScan_stop] at heq
      cases heq
      exact ⟨rfl, [], rfl, rfl, hLM⟩
    · rw [smawkScan_nil m he] at heq
      cases heq
  | cons y rest'' ih =>
    intro row pv pr seen x best rest' heq hm hpv hLM
    by_cases he : row = lastRow
    · subst he
      rw [smawkScan_stop] at heq
      cases heq
      exact ⟨rfl, [], rfl, rfl, hLM⟩
    · subst hpv
      -- either way the scan goes on with the row `LeftMin.snoc` speaks of, and that row's value
      rw [smawkScan_cons m he (hm y List.mem_cons_self),
        ← apply_ite (fun p => f p col)] at heq
      obtain ⟨e, sc, e1, e2, h⟩ := ih y _ _ (seen ++ [row]) heq (fun z hz => hm z (List.mem_cons_of_mem _ hz)) rfl
        (hLM.snoc y)
      exact ⟨e, y :: sc, by rw [e1]; rfl, by rw [List.getLast?_cons_cons]; exact e2,
        by rwa [List.append_assoc] at h⟩

theorem smawkScan_leftMin {col lastRow cur x best : Nat} {R rest rest' : List Nat}
    (hR : List.Pairwise (· < ·) R) (hsuf : (cur :: rest) <:+ R)
    (h : smawkScan m col lastRow cur rest (f cur col) cur = some (x, rest', best))
    (hmv : ∀ y ∈ R, m y col = some (f y col))
    (hP : ∀ y ∈ R, y < cur → f cur col < f y col)
    (hafter : ∀ y ∈ R, lastRow < y → f lastRow col ≤ f y col) :
    x = lastRow ∧ (lastRow :: rest') <:+ (cur :: rest) ∧ LeftMin f R col best := by
  obtain ⟨rfl, sc, e, hlast, hLM⟩ := smawkScan_min col lastRow rest cur _ cur [] h
    (fun y hy => hmv y (hsuf.subset (List.mem_cons_of_mem _ hy))) rfl
    (leftMin_iff.mpr ⟨List.mem_cons_self, fun y hy => List.mem_singleton.mp hy ▸ LexLe.refl⟩)
  -- the rows seen are those from `cur` to the stop row; the remaining ones lie after it
  have hsplit : cur :: rest = (cur :: sc) ++ rest' := by rw [e]; rfl
  have hs : List.Pairwise (· < ·) ((cur :: sc) ++ rest') := hsplit ▸ hR.sublist hsuf.sublist
  have hx : x ∈ cur :: sc := List.mem_of_getLast? hlast
  obtain ⟨d, hd⟩ := List.getLast?_eq_some_iff.mp hlast
  refine ⟨rfl, ⟨d, by rw [hsplit, hd, List.append_assoc]; rfl⟩,
    hLM.of_dom (fun y hy => hsuf.subset (hsplit ▸ List.mem_append_left _ hy)) fun y hy => ?_⟩
  rcases Nat.lt_or_ge y cur with hlt | hge
  · exact ⟨cur, List.mem_cons_self, Or.inl (hP y hy hlt)⟩
  · have hy' := mem_suffix_of_le hR hsuf hy hge
    rw [hsplit] at hy'
    rcases List.mem_append.mp hy' with h1 | h1
    · exact ⟨y, h1, LexLe.refl⟩
    · have hxy := hs.rel_of_mem_append hx h1
      exact ⟨x, hx, LexLe.of_le (hafter y hy hxy) (Nat.le_of_lt hxy)⟩

theorem smawkInterp_min (lastOfRows : Nat) (R : List Nat) (hR : List.Pairwise (· < ·) R) :
    ∀ (cols : List Nat) (cur : Nat) (rest mn : List Nat) {mn' : List Nat},
    smawkInterp m lastOfRows cols cur rest mn = some mn' →
    (cur :: rest) <:+ R → (cur :: rest).getLast? = some lastOfRows →
    List.Pairwise (· < ·) cols → MVal m f R cols → TMon f R cols →
    (∀ c ∈ oddElems cols, LeftMin f R c (mn.getD c 0)) →
    (∀ x ∈ R, x < cur → ∀ c ∈ cols, f cur c < f x c) →
    (∀ c ∈ cols, LeftMin f R c (mn'.getD c 0)) ∧ ∀ k, k ∉ cols → mn'.getD k 0 = mn.getD k 0 := by
  intro cols
  induction cols using oddElems.induct with
  | case1 =>
    intro cur rest mn mn' h _ _ _ _ _ _ _
    cases h
    exact ⟨fun _ h => absurd h List.not_mem_nil, fun _ _ => rfl⟩
  | case2 col =>
    intro cur rest mn mn' h hsuf hlast _ hmv _ _ hP
    obtain ⟨v, ⟨x, rest', best⟩, hv, h1, hcl, rfl⟩ := smawkInterp_one.mp h
    obtain rfl : v = f cur col :=
      Option.some.inj (hv.symm.trans (hmv cur (hsuf.subset List.mem_cons_self) col List.mem_cons_self))
    -- no row of `R` lies after the last one
    have hlastR : R.getLast? = some lastOfRows :=
      (getLast?_of_suffix hsuf (List.cons_ne_nil _ _)).symm.trans hlast
    obtain ⟨_, _, hbest⟩ := smawkScan_leftMin hR hsuf h1
      (fun y hy => hmv y hy col List.mem_cons_self) (fun y hy h => hP y hy h col List.mem_cons_self)
      (fun y hy h => absurd h (Nat.not_lt.mpr (le_getLast?_of_sorted hR hlastR y hy)))
    refine ⟨fun c hc => ?_, fun k hk => ?_⟩
    · rw [List.mem_singleton.mp hc, getD_set hcl, if_pos rfl]
      exact hbest
    · rw [getD_set hcl, if_neg fun e => hk (List.mem_singleton.mpr e)]
  | case3 col nxt cs ih =>
    intro cur rest mn mn' h hsuf hlast hcs hmv htm hodd hP
    obtain ⟨v, ⟨x, rest', best⟩, hv, hnl, h1, hcl, hrec⟩ := smawkInterp_cons.mp h
    obtain rfl : v = f cur col :=
      Option.some.inj (hv.symm.trans (hmv cur (hsuf.subset List.mem_cons_self) col List.mem_cons_self))
    have hc1 := List.pairwise_cons.mp hcs
    have hc2 := List.pairwise_cons.mp hc1.2
    have hcol_nxt : col < nxt := hc1.1 nxt List.mem_cons_self
    have hcol_cs : ∀ c ∈ cs, col < c := fun c hc => hc1.1 c (List.mem_cons_of_mem _ hc)
    have hnxt : nxt ∈ col :: nxt :: cs := List.mem_cons_of_mem _ List.mem_cons_self
    have hsub : ∀ c ∈ cs, c ∈ col :: nxt :: cs := fun c hc =>
      List.mem_cons_of_mem _ (List.mem_cons_of_mem _ hc)
    have hLM : LeftMin f R nxt (mn.getD nxt 0) := hodd nxt List.mem_cons_self
    -- a row after the odd minimum that is no better at `nxt` is no better at `col`
    obtain ⟨rfl, h2, hbest⟩ := smawkScan_leftMin hR hsuf h1
      (fun y hy => hmv y hy col List.mem_cons_self) (fun y hy h => hP y hy h col List.mem_cons_self)
      (fun y hy h => htm.back hLM.1 hy h List.mem_cons_self hnxt (Nat.le_of_lt hcol_nxt) (hLM.2.1 y hy))
    have hsame : ∀ c ∈ cs, (mn.set col best).getD c 0 = mn.getD c 0 := fun c hc => by
      rw [getD_set hcl, if_neg (Nat.ne_of_gt (hcol_cs c hc))]
    -- a row before the odd minimum is worse at `nxt`, hence at every later column
    obtain ⟨r3, r5⟩ := ih _ rest' (mn.set col best) hrec (h2.trans hsuf)
      ((getLast?_of_suffix h2 (List.cons_ne_nil _ _)).trans hlast) hc2.2
      (fun r hr c hc => hmv r hr c (hsub c hc)) (htm.mono (fun _ h => h) hsub)
      (fun c hc => by
        rw [hsame c (mem_of_mem_oddElems hc)]
        exact hodd c (List.mem_cons_of_mem _ hc))
      (fun y hy hlt c hc =>
        htm.fwd hy hLM.1 hlt hnxt (hsub c hc) (Nat.le_of_lt (hc2.1 c hc)) (hLM.2.2 y hy hlt))
    obtain ⟨rfl, vnxt, hfr⟩ := smawkInterp_frame hcl
      (fun e => Nat.lt_irrefl _ (hcol_cs col e)) (fun e => Nat.lt_irrefl _ (hc2.1 nxt e))
      (Nat.ne_of_gt hcol_nxt) r5
    exact ⟨List.forall_mem_cons.mpr ⟨hbest, List.forall_mem_cons.mpr ⟨vnxt ▸ hLM, r3⟩⟩, hfr⟩

end

/-! ### reduce -/

/-- the stack element at index `p` counted from the bottom (the stack is kept top-first) -/
def bot (st : List Nat) (p : Nat) : Nat := st.reverse.getD p 0

theorem bot_mem {l : List Nat} {p : Nat} (h : p < l.length) : bot l p ∈ l :=
  List.mem_reverse.mp (getD_mem_of_lt l.reverse p (Nat.lt_of_lt_of_eq h List.length_reverse.symm))

theorem bot_cons_lt {a : Nat} {l : List Nat} {p : Nat} (h : p < l.length) : bot (a :: l) p = bot l p := by
  unfold bot
  rw [List.reverse_cons, getD_append_left _ _ _ _ (Nat.lt_of_lt_of_eq h List.length_reverse.symm)]

theorem bot_cons_top (a : Nat) (l : List Nat) : bot (a :: l) l.length = a := by
  unfold bot
  rw [List.reverse_cons, getD_append_right _ _ _ _ (Nat.le_of_eq List.length_reverse),
    List.length_reverse, Nat.sub_self]
  rfl

/-- invariant of the reduce loop: `P` = the rows processed so far, `U` = all rows.
    `chain`: the stack element at index `p` is, at column `p` (the column it was last compared
    at), no worse than the element above it — the reason it was not popped; by total monotonicity
    this carries to every column to the left, which is what `pop` needs in order to find a
    dominator for a popped row left of its own column.
    `dom`: every processed row is dominated, in every column, by a row still on the stack. -/
structure RedInv (f : Nat → Nat → Int) (cols U P st : List Nat) : Prop where
  sub : ∀ s ∈ st, s ∈ U
  sorted : List.Pairwise (· < ·) st.reverse
  len : st.length ≤ cols.length
  chain : ∀ p, p + 1 < st.length → f (bot st p) (cols.getD p 0) ≤ f (bot st (p + 1)) (cols.getD p 0)
  dom : ∀ x ∈ P, ∀ c ∈ cols, ∃ s ∈ st, LexLe f c s x

/-- `dom` while row `r` pops the stack: a processed row that has lost its dominator is strictly
    worse than `r`, which is pushed once the popping ends -/
def PopDom (f : Nat → Nat → Int) (cols P st : List Nat) (r : Nat) : Prop :=
  ∀ x ∈ P, ∀ c ∈ cols, (∃ s ∈ st, LexLe f c s x) ∨ f r c < f x c

section
variable {f : Nat → Nat → Int} {cols U P st : List Nat} {r : Nat}

theorem RedInv.nil (f : Nat → Nat → Int) (cols U : List Nat) : RedInv f cols U [] [] :=
  ⟨fun _ h => absurd h List.not_mem_nil, .nil, Nat.zero_le _, fun _ h => absurd h (Nat.not_lt_zero _),
    fun _ h => absurd h List.not_mem_nil⟩

/-- with `P = []` what is left says how the stack is built -/
theorem RedInv.forget (h : RedInv f cols U P st) : RedInv f cols U [] st :=
  ⟨h.sub, h.sorted, h.len, h.chain, fun _ hx => absurd hx List.not_mem_nil⟩

theorem RedInv.tail {a : Nat} (h : RedInv f cols U [] (a :: st)) : RedInv f cols U [] st := by
  refine ⟨fun s hs => h.sub s (List.mem_cons_of_mem _ hs), ?_, Nat.le_of_succ_le h.len, fun p hp => ?_,
    fun _ hx => absurd hx List.not_mem_nil⟩
  · have := h.sorted
    rw [List.reverse_cons] at this
    exact (List.pairwise_append.mp this).1
  · have := h.chain p (Nat.lt_succ_of_lt hp)
    rwa [bot_cons_lt (Nat.lt_of_succ_lt hp), bot_cons_lt hp] at this

/-- one pop: `r` is better than `top` at the column of `top` -/
theorem RedInv.pop {top : Nat} {rest : List Nat} (h : RedInv f cols U [] (top :: rest))
    (htm : TMon f U cols) (hcs : List.Pairwise (· < ·) cols) (hrU : r ∈ U) (hgt : top < r)
    (hb : f r (cols.getD rest.length 0) < f top (cols.getD rest.length 0))
    (hd : PopDom f cols P (top :: rest) r) : PopDom f cols P rest r := by
  intro x hx c hc
  rcases hd x hx c hc with ⟨s, hs, hle⟩ | hlt
  · rcases List.mem_cons.mp hs with rfl | hs
    · have hk : rest.length < cols.length := Nat.lt_of_succ_le h.len
      have hsU := h.sub s List.mem_cons_self
      obtain ⟨q, hq, rfl⟩ := exists_index_of_mem (d := 0) cols c hc
      by_cases hkq : rest.length ≤ q
      · -- `r` beats the popped row at its own column, hence at every later one
        have := htm.fwd hsU hrU hgt (getD_mem_of_lt cols _ hk) (getD_mem_of_lt cols q hq)
          (getD_le_of_sorted hcs hkq hq) hb
        exact Or.inr (hle.elim (Int.lt_trans this) fun e => e.1 ▸ this)
      · -- the row below it is no worse at the column below, hence at every earlier one
        cases rest with
        | nil => exact absurd (Nat.zero_le q) hkq
        | cons a rest =>
          have ha : a < s := List.rel_of_pairwise_cons (List.pairwise_reverse.mp h.sorted) List.mem_cons_self
          have hch := h.chain rest.length (Nat.lt_succ_self _)
          have htop : bot (s :: a :: rest) (rest.length + 1) = s := bot_cons_top s (a :: rest)
          rw [bot_cons_lt (Nat.lt_succ_self _), bot_cons_top, htop] at hch
          have hk' : rest.length < cols.length := Nat.lt_of_succ_lt hk
          have := htm.back (h.sub a (List.mem_cons_of_mem _ List.mem_cons_self)) hsU ha
            (getD_mem_of_lt cols q hq) (getD_mem_of_lt cols _ hk')
            (getD_le_of_sorted hcs (Nat.le_of_lt_succ (Nat.lt_of_not_le hkq)) hk') hch
          exact Or.inl ⟨a, List.mem_cons_self, (LexLe.of_le this (Nat.le_of_lt ha)).trans hle⟩
    · exact Or.inl ⟨s, hs, hle⟩
  · exact Or.inr hlt

theorem RedInv.push (h : RedInv f cols U [] st) (hrU : r ∈ U) (hgt : ∀ s ∈ st, s < r)
    (hlt : st.length < cols.length) (hd : PopDom f cols P st r)
    (htop : ∀ u, st.length = u + 1 → f (bot st u) (cols.getD u 0) ≤ f r (cols.getD u 0)) :
    RedInv f cols U (r :: P) (r :: st) := by
  refine ⟨List.forall_mem_cons.mpr ⟨hrU, h.sub⟩, ?_, Nat.succ_le_of_lt hlt, fun p hp => ?_,
    fun x hx c hc => ?_⟩
  · rw [List.reverse_cons, List.pairwise_append]
    exact ⟨h.sorted, List.pairwise_singleton .., fun a ha b hb =>
      List.mem_singleton.mp hb ▸ hgt a (List.mem_reverse.mp ha)⟩
  · have hp' : p < st.length := Nat.lt_of_succ_lt_succ hp
    rw [bot_cons_lt hp']
    by_cases hpp : p + 1 < st.length
    · rw [bot_cons_lt hpp]
      exact h.chain p hpp
    · have hpe : st.length = p + 1 := Nat.le_antisymm (Nat.le_of_not_lt hpp) hp'
      rw [← hpe, bot_cons_top]
      exact htop p hpe
  · rcases List.mem_cons.mp hx with rfl | hx
    · exact ⟨x, List.mem_cons_self, LexLe.refl⟩
    · rcases hd x hx c hc with ⟨s, hs, hle⟩ | hlt
      · exact ⟨s, List.mem_cons_of_mem _ hs, hle⟩
      · exact ⟨r, List.mem_cons_self, Or.inl hlt⟩

/-- a full stack: `r` is not pushed -/
theorem RedInv.skip (h : RedInv f cols U [] st) (htm : TMon f U cols) (hcs : List.Pairwise (· < ·) cols)
    (hrU : r ∈ U) (hgt : ∀ s ∈ st, s < r) (hfull : st.length = cols.length) (hd : PopDom f cols P st r)
    (htop : ∀ u, st.length = u + 1 → f (bot st u) (cols.getD u 0) ≤ f r (cols.getD u 0)) :
    RedInv f cols U (r :: P) st := by
  -- the top is no worse than `r` at the last column, hence at every column
  have hr : ∀ c ∈ cols, ∃ s ∈ st, LexLe f c s r := by
    intro c hc
    obtain ⟨q, hq, rfl⟩ := exists_index_of_mem (d := 0) cols c hc
    obtain ⟨u, hu⟩ := Nat.exists_eq_succ_of_ne_zero (hfull ▸ Nat.ne_of_gt (Nat.zero_lt_of_lt hq))
    have hk : u < st.length := hu ▸ Nat.lt_succ_self u
    have hkc : u < cols.length := hfull ▸ hk
    have hblt := hgt _ (bot_mem hk)
    exact ⟨bot st u, bot_mem hk, LexLe.of_le (htm.back (h.sub _ (bot_mem hk)) hrU hblt
      (getD_mem_of_lt cols q hq) (getD_mem_of_lt cols u hkc)
      (getD_le_of_sorted hcs (Nat.le_of_lt_succ (by rw [← hu, hfull]; exact hq)) hkc) (htop u hu))
      (Nat.le_of_lt hblt)⟩
  refine ⟨h.sub, h.sorted, h.len, h.chain, fun x hx c hc => ?_⟩
  rcases List.mem_cons.mp hx with rfl | hx
  · exact hr c hc
  · rcases hd x hx c hc with hs | hlt
    · exact hs
    · obtain ⟨s, hs, hle⟩ := hr c hc
      exact ⟨s, hs, hle.trans (Or.inl hlt)⟩

end

section
variable {m : Nat → Nat → Option Int} {f : Nat → Nat → Int}

theorem smawkPop_val (cols U : List Nat) (hmv : MVal m f U cols) (htm : TMon f U cols)
    (hcs : List.Pairwise (· < ·) cols) {r : Nat} (hrU : r ∈ U) {P : List Nat} :
    ∀ st {st' : List Nat}, smawkPop m cols r st = some st' →
    RedInv f cols U [] st → (∀ s ∈ st, s < r) → PopDom f cols P st r →
    st' <:+ st ∧ RedInv f cols U [] st' ∧ PopDom f cols P st' r ∧
      ∀ u, st'.length = u + 1 → f (bot st' u) (cols.getD u 0) ≤ f r (cols.getD u 0) := by
  intro st
  induction st with
  | nil =>
    intro st' heq h _ hd
    cases heq
    exact ⟨List.suffix_refl _, h, hd, fun u h => absurd h.symm (Nat.succ_ne_zero u)⟩
  | cons top rest ih =>
    intro st' heq h hgt hd
    have hlt : rest.length < cols.length := Nat.lt_of_succ_le h.len
    have hmem := getD_mem_of_lt (d := 0) cols rest.length hlt
    rw [smawkPop_cons m hlt (hmv top (h.sub top List.mem_cons_self) _ hmem) (hmv r hrU _ hmem)] at heq
    by_cases hb : f r (cols.getD rest.length 0) < f top (cols.getD rest.length 0)
    · rw [if_pos hb] at heq
      obtain ⟨h2, h3⟩ := ih heq h.tail (fun s hs => hgt s (List.mem_cons_of_mem _ hs))
        (h.pop htm hcs hrU (hgt top List.mem_cons_self) hb hd)
      exact ⟨h2.trans (List.suffix_cons _ _), h3⟩
    · rw [if_neg hb] at heq
      cases heq
      refine ⟨List.suffix_refl _, h, hd, fun u hu => ?_⟩
      obtain rfl : rest.length = u := Nat.succ.inj hu
      rw [bot_cons_top]
      exact Int.not_lt.mp hb

theorem smawkReduce_val (cols U : List Nat)
    (hmv : MVal m f U cols) (htm : TMon f U cols) (hcs : List.Pairwise (· < ·) cols) :
    ∀ (rows st P : List Nat) {out : List Nat}, smawkReduce m cols rows st = some out →
    RedInv f cols U P st → (∀ r ∈ rows, r ∈ U) → List.Pairwise (· < ·) (st.reverse ++ rows) →
    RedInv f cols U (rows.reverse ++ P) out := by
  intro rows
  induction rows with
  | nil =>
    intro st P out heq h _ _
    cases heq
    exact h
  | cons r rs ih =>
    intro st P out heq h hU hs
    have hrU : r ∈ U := hU r List.mem_cons_self
    have hgt : ∀ s ∈ st, s < r := fun s hs' =>
      (List.pairwise_append.mp hs).2.2 s (List.mem_reverse.mpr hs') r List.mem_cons_self
    obtain ⟨st', hp, heq⟩ := Option.bind_eq_some_iff.mp ((smawkReduce_cons m cols r rs st).symm.trans heq)
    obtain ⟨h2, hS, hd, htop⟩ := smawkPop_val cols U hmv htm hcs hrU st hp h.forget hgt
      fun x hx c hc => Or.inl (h.dom x hx c hc)
    have hgt' : ∀ s ∈ st', s < r := fun s hs' => hgt s (h2.subset hs')
    have hstep : RedInv f cols U (r :: P) (if st'.length ≠ cols.length then r :: st' else st') := by
      by_cases hf : st'.length ≠ cols.length
      · rw [if_pos hf]
        exact hS.push hrU hgt' (Nat.lt_of_le_of_ne hS.len hf) hd htop
      · rw [if_neg hf]
        exact hS.skip htm hcs hrU hgt' (Decidable.of_not_not hf) hd htop
    rw [List.reverse_cons, List.append_assoc]
    exact ih _ (r :: P) heq hstep (fun x hx => hU x (List.mem_cons_of_mem _ hx))
      (hs.sublist (reduceStack_spec h2 r rs hS.len).1)

end

/-- what `smawk_inner` returned holds the left-most minimum of every column of a matrix that is
    totally monotone on `rows × cols` (strict form); that it returns is `smawkInner_spec` -/
theorem smawkInner_leftMin {m : Nat → Nat → Option Int} {f : Nat → Nat → Int} :
    ∀ (cols rows minima : List Nat) {mn : List Nat}, smawkInner m rows cols minima = some mn →
    List.Pairwise (· < ·) rows → List.Pairwise (· < ·) cols → MVal m f rows cols → TMon f rows cols →
    ∀ c ∈ cols, LeftMin f rows c (mn.getD c 0) := by
  intro cols
  induction hn : cols.length using Nat.strongRecOn generalizing cols with | _ n ih
  intro rows minima mn h hs hcs hmv htm
  by_cases hc : cols = []
  · subst hc
    exact fun _ h => absurd h List.not_mem_nil
  · obtain ⟨st, h1, mn1, h2, cur, rest, h3, h4⟩ := (smawkInner_cons hc).mp h
    have hred := smawkReduce_val cols rows hmv htm hcs rows [] [] h1 (RedInv.nil ..) (fun r hr => hr) hs
    have hsubR : ∀ s ∈ st.reverse, s ∈ rows := fun s hs' => hred.sub s (List.mem_reverse.mp hs')
    have hoddsub : ∀ c ∈ oddElems cols, c ∈ cols := fun c hc' => mem_of_mem_oddElems hc'
    have a3 := ih _ (hn ▸ oddElems_length_lt hc) (oddElems cols) rfl st.reverse minima h2 hred.sorted
      (hcs.sublist (oddElems_sublist cols)) (fun r hr c hc' => hmv r (hsubR r hr) c (hoddsub c hc'))
      (htm.mono hsubR hoddsub)
    have hs' := hred.sorted
    rw [h3] at a3 hsubR hs'
    obtain ⟨b3, _⟩ := smawkInterp_min _ (cur :: rest) hs' cols cur rest mn1 h4 (List.suffix_refl _)
      (by rw [List.getLast?_eq_some_getLast (List.cons_ne_nil _ _)]; rfl) hcs
      (fun r hr c hc' => hmv r (hsubR r hr) c hc') (htm.mono hsubR fun _ h => h) a3
      (fun x hx hlt => absurd hlt (Nat.not_lt.mpr (le_of_mem_sorted_cons hs' hx)))
    exact fun c hc' => (b3 c hc').of_dom hsubR fun x hx =>
      let ⟨s, hs, h⟩ := hred.dom x (List.mem_append_left _ (List.mem_reverse.mpr hx)) c hc'
      ⟨s, h3 ▸ List.mem_reverse.mpr hs, h⟩

/-- `smawk_inner` finds the left-most minimum of every column of a matrix that is totally monotone
    on `rows × cols` (strict form) -/
theorem smawkInner_min (m : Nat → Nat → Option Int) (f : Nat → Nat → Int) : ∀ (n : Nat) (cols rows minima : List Nat),
    cols.length ≤ n →
    List.Pairwise (· < ·) rows → rows ≠ [] → List.Pairwise (· < ·) cols → (∀ c ∈ cols, c < minima.length) →
    MVal m f rows cols → TMon f rows cols →
    ∃ mn, smawkInner m rows cols minima = some mn ∧ mn.length = minima.length ∧
      (∀ c ∈ cols, LeftMin f rows c (mn.getD c 0)) ∧
      (∀ k, k ∉ cols → mn.getD k 0 = minima.getD k 0) := by
  intro n cols rows minima hn hs hne hcs hlen hmv htm
  obtain ⟨mn, h1, h2, _, _, h5⟩ := smawkInner_spec m n cols rows minima hn hs hne
    (hcs.imp Nat.ne_of_lt) hlen hmv.total
  exact ⟨mn, h1, h2, smawkInner_leftMin cols rows minima h1 hs hcs hmv htm, h5⟩

/-- the form in which `online_column_minima` calls `smawk_inner` -/
theorem smawkInner_min_interval (m : Nat → Nat → Option Int) (f : Nat → Nat → Int) {a e b d : Nat}
    {minima mn : List Nat}
    (h : smawkInner m (List.range' a (e - a)) (List.range' b (d - b)) minima = some mn)
    (hmv : ∀ r, a ≤ r → r < e → ∀ c, b ≤ c → c < d → m r c = some (f r c))
    (htm : ∀ i i', a ≤ i → i < i' → i' < e → ∀ j j', b ≤ j → j < j' → j' < d →
      f i' j < f i j → f i' j' < f i j') :
    ∀ c, b ≤ c → c < d → ∀ x, a ≤ x → x < e → f (mn.getD c 0) c ≤ f x c := by
  have h3 := smawkInner_leftMin (List.range' b (d - b)) (List.range' a (e - a)) minima
    h List.pairwise_lt_range' List.pairwise_lt_range'
    (fun r hr c hc => hmv r (mem_range'_sub.mp hr).1 (mem_range'_sub.mp hr).2 c (mem_range'_sub.mp hc).1
      (mem_range'_sub.mp hc).2)
    fun i hi i' hi' hii j hj j' hj' hjj => htm i i' (mem_range'_sub.mp hi).1 hii (mem_range'_sub.mp hi').2
      j j' (mem_range'_sub.mp hj).1 hjj (mem_range'_sub.mp hj').2
  exact fun c h1 h2 x hx1 hx2 =>
    (h3 c (mem_range'_sub.mpr ⟨h1, h2⟩)).2.1 x (mem_range'_sub.mpr ⟨hx1, hx2⟩)

end TW
