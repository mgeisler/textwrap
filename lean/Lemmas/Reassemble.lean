/-
  The line reassembly loop of `wrap_single_line_slow_path` (wrap.rs:254-308). On contiguous fragments
  it cannot fail and returns `specLines`: one `specLine` per group, whose slice is the group's text
  without the whitespace of its last fragment (`groupSlice`). That whitespace is the gap skipped
  after the slice, so slices and gaps spell the line (`Decomp`).
-/
import Lemmas.Refines
namespace TW

/-- the slice a non-empty group of fragments turns into: everything but the whitespace of the
    last fragment -/
def groupSlice (g : List Word) : Text :=
  match g.getLast? with
  | none => []
  | some last => wordsText g.dropLast ++ last.word

/-- the input text skipped after the group's slice -/
def groupGap (g : List Word) : Text :=
  match g.getLast? with
  | none => []
  | some last => last.ws

theorem group_text (g : List Word) : wordsText g = groupSlice g ++ groupGap g := by
  unfold groupSlice groupGap
  cases h : g.getLast? with
  | none => have : g = [] := List.getLast?_eq_none_iff.mp h
            subst this; simp
  | some last =>
    obtain ⟨ys, rfl⟩ := List.getLast?_eq_some_iff.mp h
    simp

theorem group_trim (g : List Word) (hsl : (groupSlice g).getLast? ≠ some SP) (hgap : ∀ c ∈ groupGap g, c = SP) :
    trimEndSp (wordsText g) = groupSlice g ∧
    ((wordsText g).getLast? = some SP → trimEndSp (wordsText g).dropLast = groupSlice g) := by
  rw [group_text g]
  refine ⟨by rw [trimEndSp_append_spaces _ _ hgap, trimEndSp_id _ hsl], ?_⟩
  intro hl
  have hne : groupGap g ≠ [] := by
    intro he; rw [he, List.append_nil] at hl; exact hsl hl
  rw [List.dropLast_append_of_ne_nil hne,
    trimEndSp_append_spaces _ _ (fun c hc => hgap c (List.dropLast_subset _ hc)), trimEndSp_id _ hsl]

theorem sum_blen_wordsText (g : List Word) : (g.map fun w => blen w.word + blen w.ws).sum = blen (wordsText g) := by
  induction g with
  | nil => simp
  | cons w r ih => simp [ih, Nat.add_assoc]

/-- the penalty a group's line ends with: that of its last fragment -/
def groupPen (g : List Word) : Text :=
  match g.getLast? with
  | none => []
  | some last => last.pen

theorem groupPen_eq_nil (g : List Word) (h : ∀ w ∈ g, w.pen = []) : groupPen g = [] := by
  unfold groupPen
  cases hl : g.getLast? with
  | none => rfl
  | some last => exact h last (List.mem_of_getLast? hl)

-- the statements of the properties refer to it as `C05.indentOf`
namespace C05
/-- the indent the first line of a paragraph carries when `nPrev` lines precede it -/
def indentOf (o : Opts) (nPrev : Nat) : Text := if nPrev = 0 then o.initialIndent else o.subsequentIndent
end C05
open C05 (indentOf)

@[simp] theorem indentOf_succ (o : Opts) (n : Nat) : indentOf o (n + 1) = o.subsequentIndent := rfl

theorem indentOf_cases (o : Opts) (n : Nat) :
    indentOf o n = o.initialIndent ∨ indentOf o n = o.subsequentIndent :=
  if h : n = 0 then .inl (if_pos h) else .inr (if_neg h)

theorem indentOf_eq_nil (o : Opts) (hi : o.initialIndent = []) (hs : o.subsequentIndent = []) (n : Nat) :
    indentOf o n = [] :=
  (indentOf_cases o n).elim (·.trans hi) (·.trans hs)

/-- a line of the reassembly loop: everything but the indent comes from the text -/
def lineWith (indent : Text) (idx len : Nat) (s pen : Text) (inBuf : Bool) : LineD :=
  { indent, start := idx, len, slice := s, pen, borrowed := indent.isEmpty && pen.isEmpty, inBuf }

/-- the descriptor of one group: the `n`-th line of the output, its slice starting at byte `idx` -/
def specLine (o : Opts) (g : List Word) (idx n : Nat) : LineD :=
  lineWith (indentOf o n) idx (blen (groupSlice g)) (groupSlice g) (groupPen g) (!g.isEmpty)

@[simp] theorem specLine_render (o : Opts) (g : List Word) (idx n : Nat) :
    (specLine o g idx n).render = indentOf o n ++ groupSlice g ++ groupPen g := rfl

/-- the descriptors the loop produces, without the slicing checks -/
def specLines (o : Opts) : List (List Word) → Nat → Nat → List LineD
  | [], _, _ => []
  | g :: gs, idx, n =>
    let indent := if n = 0 then o.initialIndent else o.subsequentIndent
    match g.getLast? with
    | none =>
      { indent := indent, start := idx, len := 0, slice := [], pen := [],
        borrowed := indent.isEmpty, inBuf := false } :: specLines o gs idx (n + 1)
    | some last =>
      { indent := indent, start := idx, len := blen (groupSlice g), slice := groupSlice g, pen := last.pen,
        borrowed := indent.isEmpty && last.pen.isEmpty, inBuf := true } ::
        specLines o gs (idx + blen (wordsText g)) (n + 1)

@[simp] theorem specLines_nil (o : Opts) (idx n : Nat) : specLines o [] idx n = [] := rfl

/-- `specLines` is written with the two cases of the loop, as `reassemble` is; after
    `reassemble_eq_spec` it is used in this form, one `specLine` for either case -/
theorem specLines_cons (o : Opts) (g : List Word) (gs : List (List Word)) (idx n : Nat) :
    specLines o (g :: gs) idx n =
      specLine o g idx n :: specLines o gs (idx + blen (wordsText g)) (n + 1) := by
  simp only [specLines, specLine, lineWith, groupPen, indentOf]
  cases hl : g.getLast? with
  | none =>
    have hg : g = [] := List.getLast?_eq_none_iff.mp hl
    subst hg; simp [groupSlice]
  | some last =>
    obtain ⟨ys, rfl⟩ := List.getLast?_eq_some_iff.mp hl
    simp

/-- one turn of the loop: an empty group is not sliced; for a non-empty one
    `sum - last_word.whitespace.len()` cannot underflow, the sum includes the last fragment -/
theorem reassemble_cons (o : Opts) (line : Text) (g : List Word) (gs : List (List Word)) (idx n : Nat) :
    reassemble o line (g :: gs) idx n =
      (if g = [] then some [] else slice? line idx (idx + blen (groupSlice g))).bind fun s =>
        (reassemble o line gs (idx + blen (wordsText g)) (n + 1)).map
          (lineWith (indentOf o n) idx (blen (groupSlice g)) s (groupPen g) (!g.isEmpty) :: ·) := by
  cases hl : g.getLast? with
  | none =>
    obtain rfl := List.getLast?_eq_none_iff.mp hl
    simp only [reassemble, List.getLast?_nil, if_true, Option.bind_some, wordsText_nil, blen_nil, Nat.add_zero]
    cases reassemble o line gs idx (n + 1) with
    | none => rfl
    | some r => simp [lineWith, indentOf, groupSlice, groupPen]
  | some last =>
    have hne : g ≠ [] := fun h => by rw [h] at hl; cases hl
    have ht : blen (wordsText g) = blen (groupSlice g) + blen last.ws := by
      rw [group_text g, blen_append, groupGap, hl]
    simp only [reassemble, hl, sum_blen_wordsText, ht, Nat.add_sub_cancel, Nat.add_assoc,
      Nat.not_lt.mpr (Nat.le_add_left _ _), hne, if_false]
    cases slice? line idx (idx + blen (groupSlice g)) with
    | none => rfl
    | some s =>
      cases reassemble o line gs (idx + (blen (groupSlice g) + blen last.ws)) (n + 1) with
      | none => rfl
      | some r => simp [lineWith, indentOf, groupPen, hl, hne]

/-- the loop never panics on contiguous fragments, and every slice is the group's slice -/
theorem reassemble_eq_spec (o : Opts) (line consumed : Text) (groups : List (List Word)) (idx n : Nat)
    (hline : line = consumed ++ wordsText groups.flatten) (hidx : idx = blen consumed) :
    reassemble o line groups idx n = some (specLines o groups idx n) := by
  induction groups generalizing consumed idx n with
  | nil => rfl
  | cons g gs ih =>
    have hs : (if g = [] then some [] else slice? line idx (idx + blen (groupSlice g))) = some (groupSlice g) := by
      split
      · next hg => rw [hg]; rfl
      · rw [hline, hidx, List.flatten_cons, wordsText_append, group_text g]
        simpa using slice?_append consumed (groupSlice g) (groupGap g ++ wordsText gs.flatten)
    rw [reassemble_cons, hs, Option.bind_some, specLines_cons,
      ih (consumed ++ wordsText g) _ _ (by simp [hline]) (by simp [hidx])]
    rfl

/-- the reassembly loop reads of the options and of the line count only the indent of each line;
    two runs agree under a view `f` of the lines that cannot tell their indents apart -/
theorem reassemble_map_congr {β : Type} (f : LineD → β) (o o' : Opts) (line : Text)
    (G : List (List Word)) (idx n n' : Nat)
    (hf : ∀ k idx len s pen b, f (lineWith (indentOf o' (n' + k)) idx len s pen b) =
      f (lineWith (indentOf o (n + k)) idx len s pen b)) :
    (reassemble o' line G idx n').map (·.map f) = (reassemble o line G idx n).map (·.map f) := by
  induction G generalizing idx n n' with
  | nil => rfl
  | cons g gs ih =>
    have ih' := ih (idx + blen (wordsText g)) (n + 1) (n' + 1) fun k => by
      simpa only [Nat.add_assoc, Nat.add_comm 1 k] using hf (k + 1)
    have h0 := hf 0
    simp only [Nat.add_zero] at h0
    -- the line put in front looks alike to `f` in both runs (`h0`), the rest by `ih'` under that line
    simp only [reassemble_cons, Option.map_bind, Option.map_map, Function.comp_def, List.map_cons, h0]
    refine congrArg _ (funext fun s => ?_)
    simpa only [Option.map_map, Function.comp_def] using congrArg
      (Option.map (f (lineWith (indentOf o n) idx (blen (groupSlice g)) s (groupPen g) (!g.isEmpty)) :: ·)) ih'

/-- `text` decomposes, from byte offset `off` on, into the slices of the lines, each followed by
    its gap; `start`/`len` of every line are the offset and length of its slice -/
def Decomp : Nat → List (LineD × Text) → Text → Prop
  | _, [], t => t = []
  | off, (d, gap) :: r, t =>
    d.start = off ∧ d.len = blen d.slice ∧
      ∃ t', t = d.slice ++ gap ++ t' ∧ Decomp (off + blen d.slice + blen gap) r t'

section
variable (o : Opts) (G : List (List Word)) (idx n : Nat)

theorem specLines_decomp : Decomp idx ((specLines o G idx n).zip (G.map groupGap)) (wordsText G.flatten) := by
  induction G generalizing idx n with
  | nil => simp [Decomp]
  | cons g gs ih =>
    have e : idx + blen (groupSlice g) + blen (groupGap g) = idx + blen (wordsText g) := by
      rw [group_text g, blen_append, Nat.add_assoc]
    simp only [specLines_cons, List.map_cons, List.zip_cons_cons, Decomp]
    refine ⟨rfl, rfl, wordsText gs.flatten, ?_, ?_⟩
    · simp only [List.flatten_cons, wordsText_append, group_text g, specLine, lineWith]
    · simpa only [specLine, lineWith, e] using ih (idx + blen (wordsText g)) (n + 1)

theorem specLines_length : (specLines o G idx n).length = G.length := by
  induction G generalizing idx n with
  | nil => rfl
  | cons g gs ih => simp [specLines_cons, ih]

theorem specLines_getElem? (k : Nat) :
    (specLines o G idx n)[k]? =
      G[k]?.map fun g => specLine o g (idx + blen (wordsText (G.take k).flatten)) (n + k) := by
  induction G generalizing idx n k with
  | nil => rfl
  | cons g gs ih =>
    rw [specLines_cons]
    cases k with
    | zero => rfl
    | succ k =>
      rw [List.getElem?_cons_succ, List.getElem?_cons_succ, ih]
      simp [Nat.add_assoc, Nat.add_comm 1 k]

theorem specLines_mem_line (d : LineD) (hd : d ∈ specLines o G idx n) :
    ∃ pre g post i k, G = pre ++ g :: post ∧ d = specLine o g i k := by
  obtain ⟨k, hk⟩ := List.getElem?_of_mem hd
  obtain ⟨g, hg, rfl⟩ := Option.map_eq_some_iff.mp ((specLines_getElem? o G idx n k).symm.trans hk)
  obtain ⟨pre, post, rfl⟩ := List.append_of_mem (List.mem_of_getElem? hg)
  exact ⟨pre, g, post, _, _, rfl, rfl⟩

theorem specLines_render (hpen : ∀ g ∈ G, groupPen g = []) :
    (specLines o G idx n).map LineD.render = G.mapIdx fun k g => indentOf o (n + k) ++ groupSlice g := by
  refine (List.mapIdx_eq_iff.mpr fun k => ?_).symm
  rw [List.getElem?_map, specLines_getElem?]
  cases hg : G[k]? with
  | none => rfl
  | some g => simp [hpen g (List.mem_of_getElem? hg)]

end
end TW
