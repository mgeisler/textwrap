/-
  Coloured text as blocks: every visible character preceded by a (possibly empty) run of
  space-free escape sequences, plus a trailing run (`colOf`, `visOf`, `ValidB`), every run attached
  to a non-space character (`Attached`). `TR`: a coloured and a visible piece of text that
  `Word::from` turns into related words (`WR`). The Bool forms the driver evaluates are in
  `TextwrapModel/Colour.lean`; the last section proves that they decide the Prop forms.
-/
import Lemmas.AllRel
import Lemmas.StripStages
import Lemmas.Words
import TextwrapModel.Colour
namespace TW

open TW.C13

/-- a run of escape sequences -/
def SeqRun (P : Text) : Prop := SP ∉ P ∧ stripFrom .normal P = [] ∧ Ansi.run .normal P = .normal

/-- `B` for blocks: this is the `Prop`, `validBB` the Bool form -/
def ValidB (bs : List Block) (tl : Text) : Prop := (∀ b ∈ bs, SeqRun b.1 ∧ b.2 ≠ ESC) ∧ SeqRun tl

/-- every non-empty sequence run touches a non-space character: the visible character after it,
    or the visible character before it (`prev`) -/
def Attached : Option Char → List Block → Text → Prop
  | prev, [], tl => tl = [] ∨ ∃ c, prev = some c ∧ c ≠ SP
  | prev, b :: r, tl => (b.1 = [] ∨ b.2 ≠ SP ∨ ∃ c, prev = some c ∧ c ≠ SP) ∧ Attached (some b.2) r tl

@[simp] theorem colOf_nil (tl : Text) : colOf [] tl = tl := by simp [colOf]
@[simp] theorem colOf_cons (b : Block) (r : List Block) (tl : Text) :
    colOf (b :: r) tl = b.1 ++ b.2 :: colOf r tl := by simp [colOf]
@[simp] theorem visOf_nil : visOf [] = [] := rfl
@[simp] theorem visOf_cons (b : Block) (r : List Block) : visOf (b :: r) = b.2 :: visOf r := rfl

theorem SeqRun.nil : SeqRun [] := ⟨by simp, rfl, rfl⟩

theorem SeqRun.vis {P : Text} (h : SeqRun P) : Vis P [] := h.2

theorem ValidB.tail {b : Block} {r : List Block} {tl : Text} (h : ValidB (b :: r) tl) : ValidB r tl :=
  ⟨fun x hx => h.1 x (by simp [hx]), h.2⟩

theorem vis_colOf {bs : List Block} {tl : Text} (hv : ValidB bs tl) : Vis (colOf bs tl) (visOf bs) := by
  induction bs with
  | nil => simpa using hv.2.vis
  | cons b r ih =>
    have hb := hv.1 b (by simp)
    simpa using hb.1.vis.append ((Vis.char hb.2).append (ih hv.tail))

theorem strip_colOf {bs : List Block} {tl : Text} (hv : ValidB bs tl) : stripAnsi (colOf bs tl) = visOf bs :=
  (vis_colOf hv).1

theorem run_colOf (bs : List Block) (tl : Text) (hv : ValidB bs tl) : Ansi.run .normal (colOf bs tl) = .normal :=
  (vis_colOf hv).2

theorem ValidB.noEsc {bs : List Block} {tl : Text} (h : ValidB bs tl) : ∀ b ∈ bs, b.2 ≠ ESC :=
  fun b hb => (h.1 b hb).2

theorem strip_visOf {bs : List Block} (h : ∀ b ∈ bs, b.2 ≠ ESC) : stripAnsi (visOf bs) = visOf bs :=
  stripFrom_normal_escfree _ fun c hc => by
    obtain ⟨b, hb, rfl⟩ := List.mem_map.mp hc
    exact h b hb

/-- `curC` (coloured) and `curV` (visible) are the same piece: a body `X` whose strip is the
    visible body, followed by the same spaces; neither body ends in a space -/
def TR (curC curV : Text) : Prop :=
  ∃ X sp, curC = X ++ sp ∧ curV = stripAnsi X ++ sp ∧ (∀ c ∈ sp, c = SP) ∧
    Ansi.run .normal X = .normal ∧ X.getLast? ≠ some SP ∧ (stripAnsi X).getLast? ≠ some SP

theorem TR.of_vis {X V sp : Text} (hX : Vis X V) (hsp : ∀ c ∈ sp, c = SP) (h1 : X.getLast? ≠ some SP)
    (h2 : V.getLast? ≠ some SP) : TR (X ++ sp) (V ++ sp) := by
  obtain ⟨rfl, hrun⟩ := hX
  exact ⟨X, sp, rfl, rfl, hsp, hrun, h1, h2⟩

theorem TR.nil : TR [] [] := TR.of_vis (sp := []) Vis.nil (by simp) (by simp) (by simp)

theorem TR.vis {curC curV : Text} (h : TR curC curV) : Vis curC curV := by
  obtain ⟨X, sp, rfl, rfl, hsp, hrun, -, -⟩ := h
  exact Vis.append ⟨rfl, hrun⟩ (Vis.spaces hsp)

theorem getLast?_append_ne_sp {a b : Text} (ha : a.getLast? ≠ some SP) (hb : SP ∉ b) :
    (a ++ b).getLast? ≠ some SP := by
  by_cases h : b = []
  · simpa [h] using ha
  · rw [getLast?_append_of_ne_nil _ _ h]
    exact fun hl => hb (List.mem_of_getLast? hl)

theorem TR.append_run {curC curV tl : Text} (h : TR curC curV)
    (hT : SeqRun tl) (hatt : tl = [] ∨ ∃ d, curV.getLast? = some d ∧ d ≠ SP) : TR (curC ++ tl) curV := by
  rcases hatt with rfl | ⟨d, hd1, hd2⟩
  · simpa using h
  · obtain ⟨X, sp, rfl, e2, hsp, hrun, hx1, hx2⟩ := h
    -- the visible piece does not end in a space, so there are no trailing spaces
    obtain rfl : sp = [] := Decidable.byContradiction fun hne => by
      rw [e2, getLast?_append_of_ne_nil _ _ hne] at hd1
      exact hd2 (hsp d (List.mem_of_getLast? hd1))
    have := TR.of_vis (sp := []) (Vis.append ⟨rfl, hrun⟩ hT.vis) (by simp) (getLast?_append_ne_sp hx1 hT.1)
      (by simpa using hx2)
    simpa [e2] using this

theorem TR.block {curC curV P : Text} {c : Char} (h : TR curC curV)
    (hP : SeqRun P) (hc : c ≠ ESC)
    (hatt : P = [] ∨ c ≠ SP ∨ ∃ d, curV.getLast? = some d ∧ d ≠ SP) :
    TR (curC ++ P ++ [c]) (curV ++ [c]) := by
  by_cases hcs : c = SP
  · -- a space: a sequence run directly before it is attached to the left, so it joins the body
    subst hcs
    obtain ⟨X, sp, e1, e2, hsp, hrun, hx1, hx2⟩ :=
      h.append_run hP (hatt.imp_right fun h => h.resolve_left fun hne => hne rfl)
    exact ⟨X, sp ++ [SP], by rw [e1, List.append_assoc], by rw [e2, List.append_assoc],
      fun c hc => (List.mem_append.mp hc).elim (hsp c) List.mem_singleton.mp, hrun, hx1, hx2⟩
  · -- a non-space character: everything so far is body
    have hl : ∀ t : Text, (t ++ [c]).getLast? ≠ some SP := fun t => by simpa using hcs
    simpa using TR.of_vis (sp := []) ((h.vis.append hP.vis).append (Vis.char hc)) (by simp) (hl _) (hl _)

theorem TR.start {P : Text} {c : Char} (hP : SeqRun P) (hc : c ≠ ESC) : TR (P ++ [c]) [c] := by
  by_cases hcs : c = SP
  · simpa [hcs] using TR.of_vis (sp := [SP]) hP.vis (by simp) (getLast?_append_ne_sp (a := []) (by simp) hP.1)
      (by simp)
  · simpa using TR.nil.block hP hc (Or.inr (Or.inl hcs))

/-- the last step of both separator loops (`asciiGo`, `uniGo` on `[]`) -/
theorem TR.finish {curC curV tl : Text} (htr : TR curC curV) (hcur : curV = [] → curC = [])
    (hT : SeqRun tl) (hatt : tl = [] ∨ ∃ d, curV.getLast? = some d ∧ d ≠ SP) :
    AllRel TR (if (curC ++ tl).isEmpty then [] else [curC ++ tl]) (if curV.isEmpty then [] else [curV]) := by
  by_cases hcv : curV = []
  · -- nothing has been read: no trailing run can be attached
    obtain rfl : tl = [] := by simpa [hcv] using hatt
    simpa [hcv, hcur hcv] using AllRel.nil
  · -- a coloured piece that is empty has an empty visible piece
    have hcc : curC ++ tl ≠ [] := fun h => hcv (by
      rw [← htr.vis.1, (List.append_eq_nil_iff.mp h).1]; rfl)
    simpa [hcv, hcc] using AllRel.cons (htr.append_run hT hatt) AllRel.nil

/-- the relation between a coloured word and the word of the visible text: `w'` is `stripW w`, and
    `w` meets the pipeline's fragment invariants (`WR.iff`, `Lemmas/ColourLines.lean`) -/
def WR (cw : Char → Nat) (w w' : Word) : Prop :=
  stripW w = w' ∧ Ansi.run .normal w.word = .normal ∧ (∀ c ∈ w.ws, c = SP) ∧
    w.width = displayWidth cw w.word

theorem WR.of_vis {cw : Char → Nat} {p p' : Word} (hw : Vis p.word p'.word) (hws : p'.ws = p.ws)
    (hpen : p'.pen = p.pen) (hsp : ∀ c ∈ p.ws, c = SP) (hc : p.width = displayWidth cw p.word)
    (hc' : p'.width = displayWidth cw p'.word) : WR cw p p' := by
  refine ⟨?_, hw.2, hsp, hc⟩
  rw [← hw.1, displayWidth_strip, ← hc] at hc'
  have := hw.1
  cases p; cases p'; simp_all [stripW]

theorem TR.word (cw : Char → Nat) {pc pv : Text} (h : TR pc pv) :
    WR cw (Word.from cw pc) (Word.from cw pv) := by
  obtain ⟨X, sp, rfl, rfl, hsp, hrun, hx1, hx2⟩ := h
  rw [Word.from_append_spaces cw hx1 hsp, Word.from_append_spaces cw hx2 hsp]
  exact ⟨by simp [stripW, displayWidth_strip], hrun, hsp, rfl⟩

/-! ### the executable forms used by the driver -/

theorem seqRunB_iff (P : Text) : seqRunB P = true ↔ SeqRun P := by
  simp [seqRunB, SeqRun, SP, and_assoc]

theorem validBB_iff (bs : List Block) (tl : Text) : validBB bs tl = true ↔ ValidB bs tl := by
  unfold validBB ValidB
  simp only [Bool.and_eq_true, List.all_eq_true, seqRunB_iff, bne_iff_ne, ne_eq]
  rfl

theorem attachedB_iff (prev : Option Char) (bs : List Block) (tl : Text) :
    attachedB prev bs tl = true ↔ Attached prev bs tl := by
  induction bs generalizing prev with
  | nil => cases prev <;> simp [attachedB, Attached, SP]
  | cons b r ih => cases prev <;> simp [attachedB, Attached, SP, or_assoc, ih]

end TW
