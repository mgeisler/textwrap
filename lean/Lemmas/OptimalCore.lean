/-
  C03's abstract core, on functions `D r : Nat → _` and a cost `c : Nat → Nat → Int`: any `minima`
  conforming to the column-minima contract (`IsColMinima`) yields a minimum-cost chain of cut
  points (`backtrack_optimal`); the cost closure of `wrap_optimal_fit` is an instance (`Inst.c`)
  whose matrix is totally monotone in the strict form (`tm_strict_chain`). The monotonicity needs
  of the contract only that every column up to the larger row is reached through its row
  (`IsChainTo`), never minimality: while `smawk::online_column_minima` runs, only the finished
  columns are known to be minima.
  DESIGN.md Appendix D reproduces the statements; nothing below uses `W_step_le`, `D_nonneg`, nor
  `D_lower`, `tm_strict` (the `_chain` lemmas for a full contract).
  Mathlib (these two imports) serves the Lemmas/Optimal*.lean files only: `linarith`, `ring` and
  some ring identities (`mul_self_sub_mul_self`, `add_sub_right_comm`, …). Order steps cite core's
  `Int.` lemmas: the generic ones cost an instance search each.
-/
import Mathlib.Tactic.Linarith
import Mathlib.Tactic.Ring
namespace TW.Opt

/-- `ChainUpTo` (Lemmas/SmawkOnline.lean) says the same of a result vector; `cost_onlineTM`
    (Lemmas/OptimalOwn.lean) converts. -/
structure IsChainTo (c : Nat → Nat → Int) (D : Nat → Int) (r : Nat → Nat) (k : Nat) : Prop where
  d0 : D 0 = 0
  lt : ∀ j, 1 ≤ j → j ≤ k → r j < j
  eq : ∀ j, 1 ≤ j → j ≤ k → D j = D (r j) + c (r j) j

/-! The argument of DESIGN.md Appendix D.1 on chains of cut points, as stated there. The
executable model is reached through segment lists instead: `SegChain` (Lemmas/OptimalShape.lean),
`segCost`, `D_le_segs`, `D_eq_segs`, `optimalFit_min` (Lemmas/OptimalBridge.lean). -/

section DP
variable (n : Nat) (c : Nat → Nat → Int) (D : Nat → Int) (r : Nat → Nat)

def chainCost (c : Nat → Nat → Int) : Nat → List Nat → Int
  | _, [] => 0
  | s, x :: xs => c s x + chainCost c x xs

def Valid : Nat → List Nat → Nat → Prop
  | s, [], j => s = j
  | s, x :: xs, j => s < x ∧ Valid x xs j

/-- the column-minima contract of `smawk::online_column_minima` for the online matrix
    `D i + c i j`: `r j` is a row where column `j` attains its minimum `D j` (any tie-breaking) -/
structure IsColMinima : Prop where
  d0 : D 0 = 0
  lt : ∀ j, 1 ≤ j → j ≤ n → r j < j
  eq : ∀ j, 1 ≤ j → j ≤ n → D j = D (r j) + c (r j) j
  le : ∀ i j, i < j → j ≤ n → D j ≤ D i + c i j

theorem Valid.le {s : Nat} {xs : List Nat} {j : Nat} (h : Valid s xs j) : s ≤ j := by
  induction xs generalizing s with
  | nil => exact Nat.le_of_eq h
  | cons x xs ih => exact Nat.le_trans (Nat.le_of_lt h.1) (ih h.2)

theorem D_le_chain (h : IsColMinima n c D r) (s : Nat) (xs : List Nat) (j : Nat)
    (hv : Valid s xs j) (hj : j ≤ n) : D j ≤ D s + chainCost c s xs := by
  induction xs generalizing s with
  | nil => rw [show s = j from hv, chainCost, Int.add_zero]
  | cons x xs ih =>
    rw [chainCost, ← Int.add_assoc]
    exact Int.le_trans (ih x hv.2) (Int.add_le_add_right (h.le s x hv.1 (Nat.le_trans hv.2.le hj)) _)

/-- fuel `j` suffices -/
def backtrack (r : Nat → Nat) : Nat → Nat → List Nat
  | 0, _ => []
  | _ + 1, 0 => []
  | fuel + 1, j + 1 => backtrack r fuel (r (j + 1)) ++ [j + 1]

theorem chainCost_append (s : Nat) (xs : List Nat) (y : Nat) (e : Nat) (hv : Valid s xs e) :
    chainCost c s (xs ++ [y]) = chainCost c s xs + c e y := by
  induction xs generalizing s with
  | nil => rw [show s = e from hv]; simp [chainCost]
  | cons x xs ih => rw [List.cons_append, chainCost, chainCost, ih x hv.2, Int.add_assoc]

theorem valid_append (s : Nat) (xs : List Nat) (e y : Nat) (hv : Valid s xs e) (hy : e < y) :
    Valid s (xs ++ [y]) y := by
  induction xs generalizing s with
  | nil => exact ⟨(show s = e from hv) ▸ hy, rfl⟩
  | cons x xs ih => exact ⟨hv.1, ih x hv.2⟩

theorem backtrack_spec (h : IsColMinima n c D r) (fuel j : Nat) (hf : j ≤ fuel) (hj : j ≤ n) :
    Valid 0 (backtrack r fuel j) j ∧ chainCost c 0 (backtrack r fuel j) = D j := by
  fun_induction backtrack r fuel j with
  | case1 j => obtain rfl := Nat.le_zero.mp hf; exact ⟨rfl, h.d0.symm⟩
  | case2 => exact ⟨rfl, h.d0.symm⟩
  | case3 fuel j ih =>
    have hlt := h.lt (j+1) (Nat.succ_pos j) hj
    have := ih (Nat.le_trans (Nat.le_of_lt_succ hlt) (Nat.le_of_succ_le_succ hf))
      (Nat.le_trans (Nat.le_of_lt hlt) hj)
    refine ⟨valid_append _ _ _ _ this.1 hlt, ?_⟩
    rw [chainCost_append c 0 _ _ _ this.1, this.2, h.eq (j+1) (Nat.succ_pos j) hj]

theorem backtrack_optimal (h : IsColMinima n c D r) :
    Valid 0 (backtrack r n n) n ∧
    ∀ xs, Valid 0 xs n → chainCost c 0 (backtrack r n n) ≤ chainCost c 0 xs := by
  have hs := backtrack_spec n c D r h n n (Nat.le_refl _) (Nat.le_refl _)
  refine ⟨hs.1, fun xs hv => ?_⟩
  have := D_le_chain n c D r h 0 xs n hv (Nat.le_refl _)
  rwa [hs.2, ← Int.zero_add (chainCost c 0 xs), ← h.d0]
end DP

/-- per-line width cost, non-last line -/
def hcost (O T lw : Int) : Int := if lw > T then (lw - T) * O else (T - lw) * (T - lw)
/-- per-line width cost, last line (without the short-line term) -/
def ocost (O T lw : Int) : Int := if lw > T then (lw - T) * O else 0

section
variable {O T lw : Int}
theorem hcost_of_gt (h : T < lw) : hcost O T lw = (lw - T) * O := if_pos h
theorem hcost_of_le (h : lw ≤ T) : hcost O T lw = (T - lw) * (T - lw) := if_neg (Int.not_lt.mpr h)
theorem ocost_of_gt (h : T < lw) : ocost O T lw = hcost O T lw := by
  rw [hcost_of_gt h]; exact if_pos h
theorem ocost_of_le (h : lw ≤ T) : ocost O T lw = 0 := if_neg (Int.not_lt.mpr h)
end

theorem ocost_nonneg {O T lw : Int} (hO : 0 ≤ O) : 0 ≤ ocost O T lw := by
  rcases Int.lt_or_le T lw with h | h
  · rw [ocost_of_gt h, hcost_of_gt h]; exact Int.mul_nonneg (Int.sub_nonneg_of_le (Int.le_of_lt h)) hO
  · rw [ocost_of_le h]

theorem ocost_le_hcost (O T lw : Int) : ocost O T lw ≤ hcost O T lw := by
  rcases Int.lt_or_le T lw with h | h
  · rw [ocost_of_gt h]
  · rw [ocost_of_le h, hcost_of_le h]; exact mul_self_nonneg _

theorem hcost_nonneg {O T lw : Int} (hO : 0 ≤ O) : 0 ≤ hcost O T lw :=
  Int.le_trans (ocost_nonneg hO) (ocost_le_hcost O T lw)

/-- `hcost − ocost` is the squared gap of a line that fits; it does not grow with the line, so
    `hcost` rises no faster than `ocost` -/
theorem gap_antitone {O T a b : Int} (hab : b ≤ a) :
    hcost O T a - hcost O T b ≤ ocost O T a - ocost O T b := by
  rcases Int.lt_or_le T a with ha | ha
  · rw [ocost_of_gt ha]; exact Int.sub_le_sub_left (ocost_le_hcost O T b) _
  · have hb := Int.le_trans hab ha
    rw [ocost_of_le ha, ocost_of_le hb, hcost_of_le ha, hcost_of_le hb, Int.sub_self]
    exact Int.sub_nonpos_of_le
      (Int.mul_self_le_mul_self (Int.sub_nonneg_of_le ha) (Int.sub_le_sub_left hab T))

theorem h_antitone_fit (O T a b : Int) (hab : b ≤ a) (haT : a ≤ T) : hcost O T a ≤ hcost O T b := by
  have := gap_antitone (O := O) (T := T) hab
  rw [ocost_of_le haT, ocost_of_le (Int.le_trans hab haT), Int.sub_self] at this
  exact Int.le_of_sub_nonpos this

theorem hcost_add_of_gt {O T a d : Int} (ha : T < a) (hd : 0 ≤ d) :
    hcost O T (a + d) = hcost O T a + d * O := by
  rw [hcost_of_gt ha, hcost_of_gt (Int.lt_of_lt_of_le ha (Int.le_add_of_nonneg_right hd))]; ring

/-- nowhere does `hcost O T` rise faster than beyond `T`, where its slope is `O` -/
theorem h_slope (O T b d : Int) (hO : 0 ≤ O) (hd : 0 ≤ d) :
    hcost O T (b + d) ≤ hcost O T b + d * O := by
  rcases Int.lt_or_le T b with hb | hb
  · exact Int.le_of_eq (hcost_add_of_gt hb hd)
  rcases Int.lt_or_le T (b + d) with hbd | hbd
  · rw [hcost_of_gt hbd, hcost_of_le hb]
    exact Int.le_trans
      (Int.mul_le_mul_of_nonneg_right (Int.sub_left_le_of_le_add (Int.add_le_add_right hb d)) hO)
      (Int.le_add_of_nonneg_left (mul_self_nonneg _))
  · exact Int.le_trans (h_antitone_fit O T (b + d) b (Int.le_add_of_nonneg_right hd) hbd)
      (Int.le_add_of_nonneg_right (Int.mul_nonneg hd hO))

/-- `hcost O T` is convex: a quadratic falling to 0 at `T`, then linear with slope `O ≥ 0` -/
theorem h_convex (O T a b d : Int) (hO : 0 ≤ O) (hab : b ≤ a) (hd : 0 ≤ d) :
    hcost O T a - hcost O T b ≤ hcost O T (a + d) - hcost O T (b + d) := by
  -- if one of the inner points `a`, `b + d` lies beyond `T`, the step from it to `a + d` has the
  -- largest slope there is, and the same step from `b` has at most that
  rcases Int.lt_or_le T a with ha | ha
  · rw [hcost_add_of_gt ha hd, ← add_sub_add_right_eq_sub (hcost O T a) (hcost O T b) (d * O)]
    exact Int.sub_le_sub_left (h_slope O T b d hO hd) _
  have hba := Int.sub_nonneg_of_le hab
  rcases Int.lt_or_le T (b + d) with hbd | hbd
  · have h1 := hcost_add_of_gt (O := O) hbd hba
    have h2 := h_slope O T b (a - b) hO hba
    rw [show b + d + (a - b) = a + d by ring] at h1
    rw [add_sub_cancel] at h2
    rw [h1, add_sub_cancel_left]
    exact Int.sub_left_le_of_le_add h2
  -- otherwise `b`, `a`, `b + d` are on the quadratic
  rw [hcost_of_le ha, hcost_of_le hbd, hcost_of_le (Int.le_trans hab ha)]
  rcases Int.lt_or_le T (a + d) with had | had
  · have hadT := Int.sub_nonneg_of_le (Int.le_of_lt had)
    rw [hcost_of_gt had]
    linarith only [Int.mul_nonneg (Int.sub_nonneg_of_le ha) hba, Int.mul_nonneg hadT hO,
      Int.mul_nonneg hadT (Int.add_nonneg hba (Int.sub_nonneg_of_le hbd))]
  · -- differences of squares with the common factor `(T - a) - (T - b) ≤ 0`; the other factor falls by `2 * d`
    rw [hcost_of_le had, ← Int.sub_sub, ← Int.sub_sub, mul_self_sub_mul_self, mul_self_sub_mul_self,
      sub_sub_sub_cancel_right]
    exact Int.mul_le_mul_of_nonpos_right (Int.add_le_add (Int.sub_le_self _ hd) (Int.sub_le_self _ hd))
      (Int.sub_nonpos_of_le (Int.sub_le_sub_left hab T))

theorem o_ge_h (O T a b d : Int) (hO : 0 ≤ O) (hab : b ≤ a) (hd : 0 ≤ d) :
    hcost O T a - hcost O T b ≤ ocost O T (a + d) - ocost O T (b + d) :=
  Int.le_trans (h_convex O T a b d hO hab hd) (gap_antitone (Int.add_le_add_right hab d))

theorem o_slope (O T b d : Int) (hO : 0 ≤ O) (hd : 0 ≤ d) :
    ocost O T (b + d) ≤ hcost O T b + d * O :=
  Int.le_trans (ocost_le_hcost O T (b + d)) (h_slope O T b d hO hd)

theorem hcost_le {O T L U B : Int} (hO : 0 ≤ O) (hOU : O ≤ U) (hL : 0 ≤ L) (hLB : L ≤ B)
    (hT : 0 ≤ T) (hTU : T ≤ U) (hUB : U ≤ B) : hcost O T L ≤ B * U := by
  have hB : 0 ≤ B := Int.le_trans hL hLB
  have hTL : T - L ≤ U := Int.le_trans (Int.sub_le_self T hL) hTU
  rcases Int.lt_or_le T L with h | h
  · rw [hcost_of_gt h]
    exact Int.mul_le_mul (Int.le_trans (Int.sub_le_self L hT) hLB) hOU hO hB
  · rw [hcost_of_le h]
    exact Int.mul_le_mul (Int.le_trans hTL hUB) hTL (Int.sub_nonneg_of_le h) hB

/-- the width term of the cost closure (optimal_fit.rs:341-358) for a line of width `L` and target
    `T`, with the tests in the order of `Inst.c`; `short`: the line is a single fragment and passes
    the short-last-line test -/
def wterm (O S T L : Int) (notLast short : Prop) [Decidable notLast] [Decidable short] : Int :=
  if notLast then hcost O T L else if L > T then (L - T) * O else if short then S else 0

section
variable {O S T L : Int} {notLast short : Prop} [Decidable notLast] [Decidable short]

/-- the closure tests for overflow first -/
theorem wterm_eq : wterm O S T L notLast short =
    if T < L then (L - T) * O else if notLast then (T - L) * (T - L) else if short then S else 0 := by
  unfold wterm
  by_cases h : T < L
  · rw [if_pos h, if_pos h, hcost_of_gt h, ite_self]
  · rw [if_neg h, if_neg h, hcost_of_le (not_lt.mp h)]

/-- `short` is read on the last line only -/
theorem wterm_congr {short' : Prop} [Decidable short'] (h : ¬ notLast → (short ↔ short')) :
    wterm O S T L notLast short = wterm O S T L notLast short' := by
  unfold wterm
  by_cases hn : notLast
  · rw [if_pos hn, if_pos hn]
  · rw [if_neg hn, if_neg hn, if_congr (h hn) rfl rfl]

theorem wterm_bounds (hO : 0 ≤ O) (hS : 0 ≤ S) :
    0 ≤ wterm O S T L notLast short ∧ wterm O S T L notLast short ≤ max (hcost O T L) S := by
  have hh := hcost_nonneg (T := T) (lw := L) hO
  unfold wterm
  by_cases h1 : notLast
  · rw [if_pos h1]; exact ⟨hh, Int.le_max_left _ _⟩
  rw [if_neg h1]
  by_cases h2 : L > T
  · rw [if_pos h2, ← hcost_of_gt h2]; exact ⟨hh, Int.le_max_left _ _⟩
  rw [if_neg h2]
  by_cases h3 : short
  · rw [if_pos h3]; exact ⟨hS, Int.le_max_right _ _⟩
  · rw [if_neg h3]; exact ⟨Int.le_refl _, Int.le_trans hS (Int.le_max_right _ _)⟩
end

/-- an instance of the optimal-fit problem: `n` fragments with width `w k`, whitespace `ws k`,
    penalty width `pen k`; target width `T0` of the first line and `T1` of every other (after
    `max(1.0)`); penalties `P` per line, `O` per column of overflow, `S` for a short last line,
    `H` for a hyphen; `short i` = the short-last-line test of the closure for the one-fragment
    last line that starts at `i = n - 1` -/
structure Inst where
  n : Nat
  w : Nat → Int
  ws : Nat → Int
  pen : Nat → Int
  T0 : Int
  T1 : Int
  P : Int
  O : Int
  S : Int
  H : Int
  short : Nat → Bool

namespace Inst
variable (I : Inst)

def W (I : Inst) : Nat → Int
  | 0 => 0
  | k + 1 => W I k + I.w k + I.ws k
/-- right end of a line ending with fragment j-1 (whitespace dropped, penalty added) -/
def x (j : Nat) : Int := I.W j - I.ws (j - 1) + I.pen (j - 1)
def t (i : Nat) : Int := if i = 0 then I.T0 else I.T1
def hy (j : Nat) : Int := if I.pen (j - 1) > 0 then I.H else 0
/-- the closure of optimal_fit.rs:319-368 without the `minima[i].1` term -/
def c (i j : Nat) : Int :=
  I.P + (if j < I.n then hcost I.O (I.t i) (I.x j - I.W i)
         else if I.x j - I.W i > I.t i then (I.x j - I.W i - I.t i) * I.O
         else if i + 1 = j ∧ I.short i then I.S else 0) + I.hy j

structure Hyp : Prop where
  w0 : ∀ k, 0 ≤ I.w k
  ws0 : ∀ k, 0 ≤ I.ws k
  pen0 : ∀ k, 0 ≤ I.pen k
  penNext : ∀ k, k + 1 < I.n → I.pen k ≤ I.w (k + 1)
  P0 : 0 ≤ I.P
  O0 : 0 ≤ I.O
  S0 : 0 ≤ I.S
  H0 : 0 ≤ I.H

variable {I}

theorem W_mono_of (hw : ∀ k, 0 ≤ I.w k) (hws : ∀ k, 0 ≤ I.ws k) {a b : Nat} (hab : a ≤ b) : I.W a ≤ I.W b := by
  induction hab with
  | refl => exact Int.le_refl _
  | @step b _ ih =>
    rw [W, Int.add_assoc]
    exact Int.le_trans ih (Int.le_add_of_nonneg_right (Int.add_nonneg (hw b) (hws b)))

theorem W_step_le (h : I.Hyp) (k : Nat) : I.W k ≤ I.W (k + 1) := W_mono_of h.w0 h.ws0 (Nat.le_succ k)
theorem W_mono (h : I.Hyp) {a b : Nat} (hab : a ≤ b) : I.W a ≤ I.W b := W_mono_of h.w0 h.ws0 hab

theorem x_succ (k : Nat) : I.x (k + 1) = I.W k + I.w k + I.pen k := by
  rw [x, Nat.add_sub_cancel, W, Int.add_sub_cancel]

theorem x_step_le (h : I.Hyp) (j : Nat) (h1 : 1 ≤ j) (h2 : j + 1 ≤ I.n) : I.x j ≤ I.x (j + 1) := by
  obtain ⟨k, rfl⟩ := Nat.exists_eq_add_one.mpr h1
  rw [x_succ, x_succ, W]
  calc I.W k + I.w k + I.pen k ≤ I.W k + I.w k + I.w (k + 1) := Int.add_le_add_left (h.penNext k h2) _
    _ ≤ I.W k + I.w k + I.ws k + I.w (k + 1) :=
      Int.add_le_add_right (Int.le_add_of_nonneg_right (h.ws0 k)) _
    _ ≤ _ := Int.le_add_of_nonneg_right (h.pen0 (k + 1))

theorem x_mono (h : I.Hyp) {a b : Nat} (h1 : 1 ≤ a) (hab : a ≤ b) (hb : b ≤ I.n) : I.x a ≤ I.x b := by
  induction hab with
  | refl => exact Int.le_refl _
  | @step b hab ih => exact Int.le_trans (ih (Nat.le_of_succ_le hb)) (x_step_le h b (Nat.le_trans h1 hab) hb)

theorem W_le_of {U : Int} (h : ∀ k, I.w k + I.ws k ≤ U) (k : Nat) : I.W k ≤ k * U := by
  induction k with
  | zero => rw [W, Int.natCast_zero, Int.zero_mul]
  | succ k ih =>
    rw [W, Int.natCast_succ, Int.add_mul, Int.one_mul, Int.add_assoc]
    exact Int.add_le_add ih (h k)

theorem width_bounds {U : Int}
    (h : ∀ k, 0 ≤ I.w k ∧ I.w k ≤ U ∧ 0 ≤ I.ws k ∧ I.ws k ≤ U ∧ 0 ≤ I.pen k ∧ I.pen k ≤ U)
    {i j : Nat} (hij : i < j) (hj : j ≤ I.n) :
    0 ≤ I.x j - I.W i ∧ I.x j - I.W i ≤ (2 * (I.n : Int) + 1) * U := by
  have hmono : ∀ {a b : Nat}, a ≤ b → I.W a ≤ I.W b :=
    W_mono_of (fun k => (h k).1) (fun k => (h k).2.2.1)
  have h2U : 0 ≤ 2 * U := Int.mul_nonneg (by decide) (Int.le_trans (h 0).1 (h 0).2.1)
  constructor
  · -- the line is at least as wide as its last fragment
    obtain ⟨k, rfl⟩ := Nat.exists_eq_add_one.mpr (Nat.zero_lt_of_lt hij)
    rw [x_succ]
    exact Int.sub_nonneg_of_le (Int.le_trans (hmono (Nat.le_of_lt_succ hij))
      (Int.le_trans (Int.le_add_of_nonneg_right (h k).1) (Int.le_add_of_nonneg_right (h k).2.2.2.2.1)))
  · -- and at most as wide as all fragments up to `j` with their whitespace, and one penalty
    calc I.x j - I.W i ≤ I.x j := Int.sub_le_self _ (hmono (Nat.zero_le i))
      _ ≤ I.W j + U := Int.add_le_add (Int.sub_le_self _ (h (j - 1)).2.2.1) (h (j - 1)).2.2.2.2.2
      _ ≤ j * (2 * U) + U := Int.add_le_add_right
        (W_le_of (fun k => Int.two_mul U ▸ Int.add_le_add (h k).2.1 (h k).2.2.2.1) j) U
      _ ≤ I.n * (2 * U) + U :=
        Int.add_le_add_right (Int.mul_le_mul_of_nonneg_right (Int.ofNat_le.mpr hj) h2U) U
      _ = (2 * (I.n : Int) + 1) * U := by ring

theorem hy_nonneg (h : I.Hyp) (j : Nat) : 0 ≤ I.hy j := by
  unfold hy
  by_cases hp : I.pen (j - 1) > 0
  · rw [if_pos hp]; exact h.H0
  · rw [if_neg hp]

theorem t_zero : I.t 0 = I.T0 := rfl
theorem t_pos {i : Nat} (hi : i ≠ 0) : I.t i = I.T1 := if_neg hi

theorem c_notlast (i j : Nat) (hj : j < I.n) :
    I.c i j = I.P + hcost I.O (I.t i) (I.x j - I.W i) + I.hy j := by
  simp [c, hj]
/-- on the last line, away from the short-last-line entry `i + 1 = j` -/
theorem c_last (i j : Nat) (hj : ¬ j < I.n) (hij : i + 1 ≠ j) :
    I.c i j = I.P + ocost I.O (I.t i) (I.x j - I.W i) + I.hy j := by
  simp only [c, hj, if_false, ocost, hij, false_and]

def wcost (I : Inst) (j : Nat) : Int → Int → Int := if j < I.n then hcost I.O else ocost I.O

theorem c_wcost (i j : Nat) (hij : j < I.n ∨ i + 1 ≠ j) :
    I.c i j = I.P + I.wcost j (I.t i) (I.x j - I.W i) + I.hy j := by
  unfold wcost
  by_cases hj : j < I.n
  · rw [if_pos hj, c_notlast i j hj]
  · rw [if_neg hj, c_last i j hj (hij.resolve_left hj)]

theorem c_eq (i j : Nat) : I.c i j =
    I.P + wterm I.O I.S (I.t i) (I.x j - I.W i) (j < I.n) (i + 1 = j ∧ I.short i) + I.hy j := rfl

theorem c_lower (h : I.Hyp) (i j : Nat) : I.P + I.hy j ≤ I.c i j :=
  Int.add_le_add_right (Int.le_add_of_nonneg_right (wterm_bounds h.O0 h.S0).1) _

theorem c_nonneg (h : I.Hyp) (i j : Nat) : 0 ≤ I.c i j :=
  Int.le_trans (Int.add_nonneg h.P0 (hy_nonneg h j)) (c_lower h i j)

theorem wcost_convex (h : I.Hyp) (j : Nat) (T a b d : Int) (hab : b ≤ a) (hd : 0 ≤ d) :
    hcost I.O T a - hcost I.O T b ≤ I.wcost j T (a + d) - I.wcost j T (b + d) := by
  unfold wcost; split
  · exact h_convex I.O T a b d h.O0 hab hd
  · exact o_ge_h I.O T a b d h.O0 hab hd
theorem wcost_slope (h : I.Hyp) (j : Nat) (T b d : Int) (hd : 0 ≤ d) :
    I.wcost j T (b + d) ≤ hcost I.O T b + d * I.O := by
  unfold wcost; split
  · exact h_slope I.O T b d h.O0 hd
  · exact o_slope I.O T b d h.O0 hd
theorem wcost_add_of_gt (j : Nat) {T a d : Int} (ha : T < a) (hd : 0 ≤ d) :
    I.wcost j T (a + d) = hcost I.O T a + d * I.O := by
  unfold wcost; split
  · exact hcost_add_of_gt ha hd
  · rw [ocost_of_gt (Int.lt_of_lt_of_le ha (Int.le_add_of_nonneg_right hd))]; exact hcost_add_of_gt ha hd

end Inst

namespace Inst
variable {I : Inst} {D : Nat → Int} {r : Nat → Nat}

theorem D_nonneg (h : I.Hyp) (hm : IsColMinima I.n I.c D r) : ∀ j, j ≤ I.n → 0 ≤ D j := by
  intro j
  induction j using Nat.strong_induction_on with
  | _ j ih =>
    intro hj
    rcases Nat.eq_zero_or_pos j with h0 | hpos
    · subst h0; rw [hm.d0]
    · have hlt := hm.lt j hpos hj
      rw [hm.eq j hpos hj]
      exact Int.add_nonneg (ih (r j) hlt (Nat.le_trans (Nat.le_of_lt hlt) hj)) (c_nonneg h (r j) j)

/-- the arrangement of the first `m` fragments (m < n) that the rows trace costs at least the gap
    the first line would leave if it reached as far as `a` (by induction along the rows: no
    minimality is used) -/
theorem D_lower_chain (h : I.Hyp) {k : Nat} (hm : IsChainTo I.c D r k) :
    ∀ m, 1 ≤ m → m ≤ k → m < I.n → ∀ a, I.x m ≤ a → a ≤ I.T0 → hcost I.O I.T0 a ≤ D m := by
  intro m
  induction m using Nat.strong_induction_on with
  | _ m ih =>
    intro h1 hmk hmn a hxa haT
    have hlt := hm.lt m h1 hmk
    rw [hm.eq m h1 hmk]
    rcases Nat.eq_zero_or_pos (r m) with h0 | hpos
    · rw [h0, hm.d0, Int.zero_add, c_notlast 0 m hmn, t_zero, W, Int.sub_zero]
      exact Int.le_trans (h_antitone_fit I.O I.T0 a (I.x m) hxa haT)
        (Int.le_trans (Int.le_add_of_nonneg_left h.P0) (Int.le_add_of_nonneg_right (hy_nonneg h m)))
    · have hx : I.x (r m) ≤ a := Int.le_trans (x_mono h hpos (Nat.le_of_lt hlt) (Nat.le_of_lt hmn)) hxa
      exact Int.le_trans
        (ih (r m) hlt hpos (Nat.le_trans (Nat.le_of_lt hlt) hmk) (Nat.lt_trans hlt hmn) a hx haT)
        (Int.le_add_of_nonneg_right (c_nonneg h (r m) m))

theorem D_lower (h : I.Hyp) (hm : IsColMinima I.n I.c D r) :
    ∀ m, 1 ≤ m → m < I.n → ∀ a, I.x m ≤ a → a ≤ I.T0 → hcost I.O I.T0 a ≤ D m :=
  fun m h1 hmn => D_lower_chain h ⟨hm.d0, hm.lt, hm.eq⟩ m h1 (Nat.le_of_lt hmn) hmn

/-- Column-wise total monotonicity of the online cost matrix above the diagonal (strict form). -/
theorem tm_strict_chain (h : I.Hyp) {k : Nat} (hm : IsChainTo I.c D r k)
    (i i' j j' : Nat) (h1 : i < i') (hk : i' ≤ k) (h2 : i' < j) (h3 : j < j') (h4 : j' ≤ I.n) :
    D i' + I.c i' j < D i + I.c i j → D i' + I.c i' j' < D i + I.c i j' := by
  have hi' : 0 < i' := Nat.zero_lt_of_lt h1
  have hjn : j < I.n := Nat.lt_of_lt_of_le h3 h4
  rw [c_notlast i' j hjn, c_notlast i j hjn, c_wcost i' j' (Or.inr (Nat.ne_of_lt (Nat.lt_of_le_of_lt h2 h3))),
    c_wcost i j' (Or.inr (Nat.ne_of_lt (Nat.lt_of_le_of_lt h1 (Nat.lt_trans h2 h3)))), t_pos (Nat.ne_of_gt hi')]
  -- `a`, `b`: the lines `i..j`, `i'..j`; `d`: what going on to column `j'` adds to both
  obtain ⟨d, hd⟩ := Int.le.dest (x_mono h (Nat.zero_lt_of_lt h2) (Nat.le_of_lt h3) h4)
  have hd0 : (0 : Int) ≤ d := Int.natCast_nonneg d
  rw [← hd, add_sub_right_comm, add_sub_right_comm]
  generalize ha : I.x j - I.W i = a
  generalize hb : I.x j - I.W i' = b
  have hab : b ≤ a := hb ▸ ha ▸ Int.sub_le_sub_left (W_mono h (Nat.le_of_lt h1)) _
  intro hprem
  rcases Nat.eq_zero_or_pos i with rfl | hi
  · rw [hm.d0, t_zero] at hprem ⊢
    rcases le_or_gt a I.T0 with hfit | hfit
    · -- the premise is impossible: row `i'` costs at least the gap of a first line reaching `a`
      have hxi' : I.x i' ≤ a := by
        rw [← ha, W, Int.sub_zero]; exact x_mono h hi' (Nat.le_of_lt h2) (Nat.le_of_lt hjn)
      have hD := D_lower_chain h hm i' hi' hk (Nat.lt_trans h2 hjn) a hxi' hfit
      have hb0 := hcost_nonneg (T := I.T1) (lw := b) h.O0
      linarith only [hprem, hD, hb0]
    · rw [wcost_add_of_gt j' hfit hd0]
      linarith only [hprem, wcost_slope h j' I.T1 b d hd0]
  · rw [t_pos (Nat.ne_of_gt hi)] at hprem ⊢
    linarith only [hprem, wcost_convex h j' I.T1 a b d hab hd0]

theorem tm_strict (h : I.Hyp) (hm : IsColMinima I.n I.c D r)
    (i i' j j' : Nat) (h1 : i < i') (h2 : i' < j) (h3 : j < j') (h4 : j' ≤ I.n) :
    D i' + I.c i' j < D i + I.c i j → D i' + I.c i' j' < D i + I.c i j' :=
  tm_strict_chain h ⟨hm.d0, hm.lt, hm.eq⟩ i i' j j' h1 (Nat.le_of_lt (Nat.lt_of_lt_of_le (Nat.lt_trans h2 h3) h4)) h2 h3 h4

end Inst

end TW.Opt
