/-
  C04, "optimal-fit never reports an overflow error when all widths and penalties are
  usize-valued" — the exact-arithmetic half. For fragment widths, whitespace widths, penalty
  widths, line widths and penalties in `[0, U]` (any number of line widths, no monotonicity, no
  `penalty ≤ next width`), every entry the cost closure of `wrap_optimal_fit` computes is the
  row's stored value plus an increment in `[0, K]`, `K = 2U + (2n+1)·U²` (`costClosure_bounded`),
  so the value the model's own `smawk` stores for column `j` lies in `[0, j·K]`
  (`optimalFit_costs_bounded`; the stored values are the ones `wrap_optimal_fit` tests with
  `is_infinite`): for `U = 2^64` and `n < 2^64` that is below `2^260`, far from the `f64` range
  limit `≈ 2^1024`. (That the `f64` computation of a value whose exact counterpart is that small
  stays finite is IEEE round-to-nearest monotonicity: an assumption, DESIGN §5.4.)
-/
import Lemmas.SmawkOnline
import Lemmas.SmawkClosure
import Lemmas.OptimalBridge
namespace TW
open TW.Opt

theorem target_bounds {lws : List Int} {U : Int} (hU : 1 ≤ U) (hl : ∀ lw ∈ lws, 0 ≤ lw ∧ lw ≤ U) (ln : Nat) :
    1 ≤ CostNum.max1 (lws.getD ln (defaultLw lws)) ∧ CostNum.max1 (lws.getD ln (defaultLw lws)) ≤ U := by
  have hd : 0 ≤ defaultLw lws ∧ defaultLw lws ≤ U := by
    unfold defaultLw
    cases h : lws.getLast? with
    | none => exact ⟨Int.le_refl _, Int.le_trans (by decide) hU⟩
    | some v => exact hl v (List.mem_of_getLast? h)
  have hlw := getD_all (P := fun lw => 0 ≤ lw ∧ lw ≤ U) lws _ hl hd ln
  rw [max1_eq]
  exact ⟨Int.le_max_left _ _, Int.max_le.mpr ⟨hU, hlw.2⟩⟩

/-- what the closure adds for one line: the width term is at most `B * U` (`hcost_le`), the line
    and hyphen penalties add at most `2 * U` -/
theorem lineInc_bounds {P O S H T L p U B : Int} {notLast short : Prop} [Decidable notLast] [Decidable short]
    (hP : 0 ≤ P ∧ P ≤ U) (hO : 0 ≤ O ∧ O ≤ U) (hS : 0 ≤ S ∧ S ≤ U) (hH : 0 ≤ H ∧ H ≤ U)
    (hT : 1 ≤ T ∧ T ≤ U) (hL : 0 ≤ L ∧ L ≤ B) (hUB : U ≤ B) :
    0 ≤ P + wterm O S T L notLast short + (if 0 < p then H else 0) ∧
      P + wterm O S T L notLast short + (if 0 < p then H else 0) ≤ 2 * U + B * U := by
  have hU1 : 1 ≤ U := Int.le_trans hT.1 hT.2
  have hU0 : 0 ≤ U := Int.le_trans (by decide) hU1
  obtain ⟨hw0, hw⟩ := wterm_bounds (T := T) (L := L) (notLast := notLast) (short := short) hO.1 hS.1
  have hBU : U ≤ B * U := by
    have := Int.mul_le_mul_of_nonneg_right (Int.le_trans hU1 hUB) hU0
    rwa [Int.one_mul] at this
  replace hw := Int.le_trans hw (Int.max_le.mpr
    ⟨hcost_le hO.1 hO.2 hL.1 hL.2 (Int.le_trans (by decide) hT.1) hT.2 hUB, Int.le_trans hS.2 hBU⟩)
  have hy : 0 ≤ (if 0 < p then H else 0) ∧ (if 0 < p then H else 0) ≤ U := by
    by_cases h : 0 < p
    · rw [if_pos h]; exact hH
    · rw [if_neg h]; exact ⟨Int.le_refl _, hU0⟩
  exact ⟨Int.add_nonneg (Int.add_nonneg hP.1 hw0) hy.1,
    Int.le_trans (Int.add_le_add (Int.add_le_add hP.2 hw) hy.2) (Int.le_of_eq (by ring))⟩

theorem costClosure_bounded (pen : Penalties) (lws : List Int) (frs : List IFrag) (U : Int) (hU : 1 ≤ U)
    (hf : ∀ f ∈ frs, 0 ≤ f.w ∧ f.w ≤ U ∧ 0 ≤ f.ws ∧ f.ws ≤ U ∧ 0 ≤ f.pen ∧ f.pen ≤ U)
    (hl : ∀ lw ∈ lws, 0 ≤ lw ∧ lw ≤ U)
    (hp : (pen.nline : Int) ≤ U ∧ (pen.overflow : Int) ≤ U ∧ (pen.shortPen : Int) ≤ U ∧ (pen.hyphen : Int) ≤ U) :
    MBounded (costClosure pen lws frs (prefixWidths frs)) (frs.length + 1)
      (2 * U + (2 * (frs.length : Int) + 1) * U * U) := by
  intro pre i j hs hi hij hj
  replace hj := Nat.le_of_lt_succ hj
  rw [costClosure_eq hs hi hij hj]
  obtain ⟨k, rfl⟩ := Nat.exists_eq_add_one.mpr (Nat.zero_lt_of_lt hij)
  have hU0 : 0 ≤ U := Int.le_trans (by decide) hU
  have hL := Inst.width_bounds (I := instOf pen lws frs)
    (getD_all frs fragD hf
      ⟨Int.le_refl 0, hU0, Int.le_refl 0, hU0, Int.le_refl 0, hU0⟩) hij hj
  have hUB : U ≤ (2 * (frs.length : Int) + 1) * U := by
    have h1 : (1 : Int) ≤ 2 * (frs.length : Int) + 1 :=
      Int.le_add_of_nonneg_left (Int.mul_nonneg (by decide) (Int.natCast_nonneg _))
    have := Int.mul_le_mul_of_nonneg_right h1 hU0
    rwa [Int.one_mul] at this
  rw [lineCost_wterm, Nat.add_sub_cancel, fragD_eq,
    lineWidth_eq pen lws frs i k (Nat.le_trans (Nat.le_of_lt hij) hj) hj]
  exact ⟨_, rfl, lineInc_bounds ⟨Int.natCast_nonneg _, hp.1⟩ ⟨Int.natCast_nonneg _, hp.2.1⟩
    ⟨Int.natCast_nonneg _, hp.2.2.1⟩ ⟨Int.natCast_nonneg _, hp.2.2.2⟩ (target_bounds hU hl _) hL hUB⟩

theorem optimalFit_costs_bounded (pen : Penalties) (lws : List Int) (frs : List IFrag) (U : Int) (hU : 1 ≤ U)
    (hf : ∀ f ∈ frs, 0 ≤ f.w ∧ f.w ≤ U ∧ 0 ≤ f.ws ∧ f.ws ≤ U ∧ 0 ≤ f.pen ∧ f.pen ≤ U)
    (hl : ∀ lw ∈ lws, 0 ≤ lw ∧ lw ≤ U)
    (hp : (pen.nline : Int) ≤ U ∧ (pen.overflow : Int) ≤ U ∧ (pen.shortPen : Int) ≤ U ∧ (pen.hyphen : Int) ≤ U) :
    ∃ res, onlineColumnMinima (costClosure pen lws frs (prefixWidths frs)) 0 (frs.length + 1) = some res ∧
      res.length = frs.length + 1 ∧
      ∀ j, j ≤ frs.length → 0 ≤ Dof res j ∧
        Dof res j ≤ (j : Int) * (2 * U + (2 * (frs.length : Int) + 1) * U * U) := by
  have hU0 : 0 ≤ U := Int.le_trans (by decide) hU
  have hK : 0 ≤ 2 * U + (2 * (frs.length : Int) + 1) * U * U :=
    Int.add_nonneg (Int.mul_nonneg (by decide) hU0)
      (Int.mul_nonneg (Int.mul_nonneg
        (Int.add_nonneg (Int.mul_nonneg (by decide) (Int.natCast_nonneg _)) (by decide)) hU0) hU0)
  obtain ⟨res, r1, r2, r3⟩ := onlineColumnMinima_bounded (costClosure_bounded pen lws frs U hU hf hl hp) hK 0
    (Nat.succ_pos _)
  refine ⟨res, r1, r2, fun j hj => ?_⟩
  have := r3 j (Nat.lt_succ_of_le hj)
  rwa [Int.zero_add] at this

end TW
