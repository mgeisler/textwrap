/-
  Lemmas for `dedent`: blank lines, and the narrowing loop as a fold of `lcp` over the leading
  whitespace of the non-blank lines.
-/
import Lemmas.Prefix
namespace TW

variable {isWs : Char → Bool}

theorem leadingWs_eq_takeWhile (l : Text) : leadingWs isWs l = l.takeWhile isWs := by
  induction l with
  | nil => rfl
  | cons c cs ih => simp only [leadingWs, List.takeWhile_cons, ih]

theorem leadingWs_append {p : Text} (hp : p.all isWs = true) (l : Text) :
    leadingWs isWs (p ++ l) = p ++ leadingWs isWs l := by
  simp only [leadingWs_eq_takeWhile, List.takeWhile_append_of_pos (List.all_eq_true.mp hp)]

def nonblank (isWs : Char → Bool) (l : Text) : Bool := !(l.all isWs)

theorem nonblank_append_ws {p : Text} (hp : p.all isWs = true) (l : Text) :
    nonblank isWs (p ++ l) = nonblank isWs l := by
  simp [nonblank, List.all_append, hp]

theorem nonblank_nil (isWs : Char → Bool) : nonblank isWs [] = false := by simp [nonblank]

/-- `h`: on a line that is a proper prefix of `pre` the loop keeps `pre`, which is not their `lcp` -/
theorem narrowStep_eq (line pre : Text) (h : line <+: pre → line = pre) :
    narrowStep line pre = lcp line pre := by
  unfold narrowStep
  rw [zipMismatchLine_eq_zipMismatch, zipMismatch_eq]
  by_cases hc : lcp line pre = line ∨ lcp line pre = pre
  · rw [if_pos hc]
    rcases hc with hc | hc
    · have e := h (hc ▸ lcp_prefix_right line pre)
      rw [hc, e]
    · exact hc.symm
  · rw [if_neg hc]
    simp only [not_or] at hc
    simp [blen_lt_of_prefix (lcp_prefix_left line pre) hc.1, blen_lt_of_prefix (lcp_prefix_right line pre) hc.2]

theorem lcp_leadingWs (l : Text) {pre : Text} (hp : pre.all isWs = true) :
    lcp l pre = lcp (leadingWs isWs l) pre := by
  rw [leadingWs_eq_takeWhile]
  apply List.IsPrefix.eq_of_length_le
  · rw [prefix_lcp_iff, prefix_takeWhile_iff]
    exact ⟨⟨all_of_prefix (lcp_prefix_right l pre) hp, lcp_prefix_left l pre⟩, lcp_prefix_right l pre⟩
  · exact (prefix_lcp_iff.mpr
      ⟨(lcp_prefix_left _ pre).trans (List.takeWhile_prefix _), lcp_prefix_right _ pre⟩).length_le

theorem dedentNarrow_eq (rest : List Text) {pre : Text} (hp : pre.all isWs = true) :
    dedentNarrow isWs rest pre = lcpAll (pre :: (rest.filter (nonblank isWs)).map (leadingWs isWs)) := by
  fun_induction dedentNarrow isWs rest pre with
  | case1 pre => rfl
  | case2 l ls pre hb ih => simp [nonblank, hb, ih hp]
  | case3 l ls pre hb ih =>
    -- a non-blank line cannot be a prefix of an all-whitespace string
    have e := narrowStep_eq l pre fun h => absurd (all_of_prefix h hp) hb
    rw [ih (e ▸ all_of_prefix (lcp_prefix_right _ _) hp), e, lcp_leadingWs l hp]
    simp [nonblank, hb, lcpAll_cons_cons]

end TW
