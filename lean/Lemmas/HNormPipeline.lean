/-
  H-norm as a theorem for coloured text: if every space (and, with the hyphen splitter, every
  hyphen) of a line is met in skipper state `normal` and the line ends in state `normal`, all
  fragments of the pipeline begin and end in state `normal`. The recorded finding classes KF-1a
  (a space inside a sequence), KF-1b (a splitting hyphen inside a sequence) and KF-2 (a space
  swallowed by a bare ESC) lie in the complement.
-/
import Lemmas.Width
namespace TW

/-- every character satisfying `P` is met in skipper state `normal` -/
def MetNormal (P : Char → Bool) : Ansi → Text → Prop
  | _, [] => True
  | s, c :: cs => (P c = true → s = .normal) ∧ MetNormal P (s.step c).1 cs

theorem metNormal_append (P : Char → Bool) (s : Ansi) (a b : Text) :
    MetNormal P s (a ++ b) ↔ MetNormal P s a ∧ MetNormal P (s.run a) b := by
  induction a generalizing s with
  | nil => simp [MetNormal]
  | cons c cs ih => simp [MetNormal, ih, and_assoc]

theorem step_normal_of_ne_esc (c : Char) (h : c ≠ ESC) : (Ansi.normal.step c).1 = .normal := by
  rw [step_normal h]

section
variable {env : Env} {sep : Sep} {sp : Splitter} {Q : Char → Bool} {line : Text} {ws sw : List Word}

/-! ### stage 1: both separators cut in state `normal` -/

/-- a piece of the ASCII separator begins behind a space, which is met in state `normal` -/
theorem asciiCuts_run (hQ : Q SP = true) {P : List Text} (hc : AsciiCuts P)
    (hm : MetNormal Q .normal P.flatten) {pre : List Text} {p : Text} {post : List Text}
    (hP : P = pre ++ p :: post) : Ansi.run .normal pre.flatten = .normal := by
  rcases List.eq_nil_or_concat pre with rfl | ⟨pre', q, rfl⟩
  · rfl
  · rw [List.concat_eq_append] at hP ⊢
    obtain ⟨q', rfl⟩ := List.getLast?_eq_some_iff.mp
      (hc.dropLast_sp q (by simp [hP, List.dropLast_append_of_ne_nil]))
    have hflat : P.flatten = (pre'.flatten ++ q') ++ (SP :: (p ++ post.flatten)) := by rw [hP]; simp
    rw [hflat, metNormal_append] at hm
    have hrun : Ansi.run .normal ((pre'.flatten ++ q') ++ [SP]) = .normal := by
      rw [run_snoc, hm.2.1 hQ, step_normal (by decide)]
    simpa using hrun

theorem findWords_pieces (hQ : Q SP = true) (hm : MetNormal Q .normal line)
    (h : findWords env sep line = some ws) :
    ∃ P : List Text, ws = P.map (Word.from env.cw) ∧ P.flatten = line ∧
      ∀ pre p post, P = pre ++ p :: post → Ansi.run .normal pre.flatten = .normal := by
  cases sep with
  | ascii =>
    obtain rfl := Option.some.inj h
    have hflat : (asciiGo [] false line).flatten = line := by simpa using asciiGo_flatten [] false line
    exact ⟨_, rfl, hflat, fun _ _ _ => asciiCuts_run hQ (asciiGo_cuts0 line) (by rw [hflat]; exact hm)⟩
  | unicode =>
    obtain ⟨os, -, rfl⟩ := findWordsUnicode_some h
    refine ⟨_, rfl, uniGo_flatten0 os line, fun pre p post hsplit => ?_⟩
    by_cases hpre : pre = []
    · subst hpre; rfl
    · exact (uniGo_cuts_sound0 os line pre p post hsplit hpre).1

/-- the word ends in state `normal` because the first trimmed space, if there is one, is met there -/
theorem from_normal (cw : Char → Nat) (hQ : Q SP = true) {p : Text}
    (hm : MetNormal Q .normal p) (hr : Ansi.run .normal p = .normal) :
    FragNormal (Word.from cw p) ∧ MetNormal Q .normal (Word.from cw p).word := by
  have hsp : ∀ c ∈ (Word.from cw p).ws, c = SP := trimEndSp_rest_spaces p
  rw [← Word.from_lossless cw p, metNormal_append] at hm
  refine ⟨⟨?_, hsp⟩, hm.1⟩
  cases hws : (Word.from cw p).ws with
  | nil => rwa [← Word.from_lossless cw p, hws, List.append_nil] at hr
  | cons c cs =>
    rw [hws] at hm hsp
    rw [hsp c (by simp)] at hm
    exact hm.2.1 hQ

theorem findWords_normal (hQ : Q SP = true) (hm : MetNormal Q .normal line)
    (hend : Ansi.run .normal line = .normal) (h : findWords env sep line = some ws) :
    ∀ w ∈ ws, FragNormal w ∧ MetNormal Q .normal w.word := by
  obtain ⟨P, rfl, rfl, hcut⟩ := findWords_pieces hQ hm h
  intro w hw
  obtain ⟨p, hp, rfl⟩ := List.mem_map.mp hw
  obtain ⟨pre, post, rfl⟩ := List.append_of_mem hp
  have hpre := hcut pre p post rfl
  -- the piece ends where the next piece begins, or where the line ends
  have hpost : Ansi.run .normal (pre.flatten ++ p) = .normal := by
    cases post with
    | nil => simpa using hend
    | cons q post' => simpa using hcut (pre ++ [p]) q post' (by simp)
  have hmp : MetNormal Q .normal p := by
    rw [List.flatten_append, List.flatten_cons, metNormal_append, metNormal_append, hpre] at hm
    exact hm.2.1
  exact from_normal env.cw hQ hmp (by rwa [run_append, hpre] at hpost)

/-! ### stage 2: splitting at hyphens -/

theorem splitWords_normal (hb : Builtin sp) (hQ : sp = .hyphen → Q HY = true)
    (hws : ∀ w ∈ ws, FragNormal w ∧ MetNormal Q .normal w.word)
    (h : splitWords env sp ws = some sw) : ∀ w ∈ sw, FragNormal w ∧ MetNormal Q .normal w.word :=
  splitWords_forall h fun w hw ps hps p hp => by
    obtain ⟨⟨hr, hsp⟩, hm⟩ := hws w hw
    -- a piece begins and ends where the word begins, behind a hyphen met in state `normal`, or where the word ends
    have bdry : ∀ x post, w.word = x ++ post → (x = [] ∨ sp = .hyphen ∧ ∃ a, x = a ++ [HY]) ∨ post = [] →
        Ansi.run .normal x = .normal := by
      rintro x post e ((rfl | ⟨hy, a, rfl⟩) | rfl)
      · rfl
      · have hma := hm
        rw [e, List.append_assoc, List.singleton_append, metNormal_append] at hma
        rw [run_snoc, hma.2.1 (hQ hy), step_normal (by decide)]
      · rwa [e, List.append_nil] at hr
    obtain ⟨pre, post, e, _, hpre, hcase⟩ := splitOne_builtin_mem hb hps p hp
    have h1 := bdry pre (p.word ++ post) (by rw [e, List.append_assoc]) (.inl hpre)
    have h2 := bdry (pre ++ p.word) post e (hcase.elim (fun h => .inl (.inr h.1)) fun h => .inr h.1)
    rw [run_append, h1] at h2
    rw [e, metNormal_append, metNormal_append, h1] at hm
    refine ⟨⟨h2, ?_⟩, hm.1.2⟩
    rcases hcase with ⟨_, hws', _⟩ | ⟨_, hws', _⟩
    · simp [hws']
    · rwa [hws']

end

/-! ### stage 3: force-breaking -/

/-- `break_apart` skips escape sequences whole, so it cuts in state `normal` only (`breakOK_shape`) -/
theorem breakWords_normal (cw : Char → Nat) (limit : Nat) (ws : List Word) (hws : ∀ w ∈ ws, FragNormal w) :
    ∀ w ∈ breakWords cw limit ws, FragNormal w := by
  intro f hf
  obtain ⟨w, hw, ⟨_, h⟩ | ⟨rfl, _⟩⟩ := mem_breakWords f hf
  · obtain ⟨h1, h2⟩ := hws w hw
    have hne : breakApart cw limit w ≠ [] := List.ne_nil_of_mem h
    obtain ⟨fpre, l, e1, e2, e3, e4⟩ := breakOK_shape cw limit w.ws w.pen _ hne (breakApart_ok cw limit w)
    rw [e1] at h
    rcases List.mem_append.mp h with h | h
    · exact ⟨(e3 f h).2, by simp [(e3 f h).1]⟩
    · -- the last piece ends where the word ends
      rw [List.mem_singleton.mp h]
      have hflat := breakApart_flatten cw limit w
      rw [e1, List.map_append, List.flatten_append] at hflat
      rw [← hflat, run_append, e4] at h1
      exact ⟨by simpa using h1, by rw [e2]; exact h2⟩
  · exact hws f hw

/-- the characters that must be met in state `normal`: spaces, and hyphens when the hyphen
    splitter is active -/
def guardChars (sp : Splitter) (c : Char) : Bool :=
  c == SP || (match sp with | .hyphen => c == HY | _ => false)

/-- the line is safe for the configured splitter: every space (and splitting hyphen) is met in
    skipper state `normal`, and the line ends in state `normal` -/
def SeqSafe (sp : Splitter) (line : Text) : Prop :=
  MetNormal (guardChars sp) .normal line ∧ Ansi.run .normal line = .normal

/-- H-norm is a theorem for safe lines (both separators, built-in splitters, `break_words`
    on or off) -/
theorem pipeline_hnorm (env : Env) (o : Opts) (hb : Builtin o.splitter)
    (line : Text) (hsafe : SeqSafe o.splitter line) (sw : Nat) (frs : List Word)
    (h : pipeline env o line sw = some frs) : HNorm frs := by
  rw [hnorm_iff]
  refine pipeline_ind (P := fun frs => ∀ w ∈ frs, FragNormal w) h ?_
    (fun _ ws hws => breakWords_normal env.cw sw ws hws) ?_
  · intro fw sws hfw hs w hw
    exact (splitWords_normal hb (fun e => by rw [e]; simp [guardChars])
      (findWords_normal (by simp [guardChars]) hsafe.1 hsafe.2 hfw) hs w hw).1
  · exact fun _ hws => List.forall_mem_cons.mpr ⟨by simp [FragNormal], hws⟩

/-! ### safe lines: well-formed sequences that contain no guarded character -/

/-- a well-formed token without guarded characters inside its sequence -/
def Seg.safe (Q : Char → Bool) : Seg → Bool
  | .ch _ => true
  | .csi params final => params.all (fun c => !Q c) && !Q final && !Q '['
  | .osc body e => body.all (fun c => !Q c) && e.text.all (fun c => !Q c) && !Q ']'

theorem metNormal_none (Q : Char → Bool) (s : Ansi) (t : Text) (h : t.all (fun c => !Q c) = true) :
    MetNormal Q s t := by
  induction t generalizing s with
  | nil => trivial
  | cons c cs ih =>
    rw [List.all_cons, Bool.and_eq_true, Bool.not_eq_true'] at h
    exact ⟨fun hq => absurd (h.1.symm.trans hq) Bool.false_ne_true, ih _ h.2⟩

theorem metNormal_segs (Q : Char → Bool) (hE : Q ESC = false) (l : List Seg)
    (hok : ∀ g ∈ l, g.ok = true) (hsafe : ∀ g ∈ l, g.safe Q = true) :
    MetNormal Q .normal (renderSegs l) := by
  induction l with
  | nil => trivial
  | cons g gs ih =>
    simp only [renderSegs, List.map_cons, List.flatten_cons]
    rw [metNormal_append, (seg_run g (hok g (by simp))).2]
    refine ⟨?_, ih (fun x hx => hok x (by simp [hx])) (fun x hx => hsafe x (by simp [hx]))⟩
    have hs := hsafe g (by simp)
    cases g with
    | ch c => exact ⟨fun _ => rfl, trivial⟩
    | csi p f =>
      simp only [Seg.safe, Bool.and_eq_true, Bool.not_eq_true'] at hs
      exact metNormal_none _ _ _ (by simp [Seg.render, hE, hs])
    | osc b e =>
      simp only [Seg.safe, Bool.and_eq_true, Bool.not_eq_true'] at hs
      exact metNormal_none _ _ _ (by simp [Seg.render, hE, hs])

theorem guardChars_esc (sp : Splitter) : guardChars sp ESC = false := by
  cases sp <;> simp [guardChars, ESC, SP, HY]

/-- lines made of visible characters and well-formed CSI/OSC sequences that contain no space
    (and, with the hyphen splitter, no hyphen) are safe -/
theorem seqSafe_of_segs (sp : Splitter) (l : List Seg) (hok : ∀ g ∈ l, g.ok = true)
    (hsafe : ∀ g ∈ l, g.safe (guardChars sp) = true) : SeqSafe sp (renderSegs l) :=
  ⟨metNormal_segs _ (guardChars_esc sp) l hok hsafe, (segs_run l hok).2⟩

theorem metNormalB_iff (P : Char → Bool) (s : Ansi) (t : Text) :
    metNormalB P s t = true ↔ MetNormal P s t := by
  induction t generalizing s with
  | nil => simp [metNormalB, MetNormal]
  | cons c cs ih =>
    simp only [metNormalB, MetNormal, Bool.and_eq_true, Bool.or_eq_true, Bool.not_eq_true', ih,
      beq_iff_eq, Decidable.imp_iff_not_or, Bool.not_eq_true]

/-- the driver's `seqsafe` operation decides `SeqSafe` -/
theorem seqSafeB_iff (sp : Splitter) (t : Text) :
    seqSafeB (match sp with | .hyphen => true | _ => false) t = true ↔ SeqSafe sp t := by
  unfold seqSafeB SeqSafe
  rw [Bool.and_eq_true, metNormalB_iff, beq_iff_eq]
  have : (fun c => c == ' ' || ((match sp with | .hyphen => true | _ => false) && c == '-')) = guardChars sp := by
    funext c
    cases sp <;> simp [guardChars, SP, HY]
  rw [this]

end TW
