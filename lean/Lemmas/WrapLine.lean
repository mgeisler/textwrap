/-
  `wrap_single_line` and `wrap_single_line_slow_path`. The slow path is pipeline, algorithm and
  reassembly in sequence (`wrapSingleLineSlow_eq`) and returns `specLines` of the groups;
  `wrap_single_line` is the byte-length shortcut or the slow path. What needs neither contiguous
  fragments nor the shape contract of the minima (line count, indents, `Cow` variant) is proved
  without them (`wrapAlg_ne_nil`, `reassemble_lines`, `wrapSingleLine_indent`).
-/
import Lemmas.Reassemble
import Lemmas.OptimalShape
import Lemmas.FirstFit
namespace TW
open C05 (indentOf)

section
variable {α : Type} [CostNum α]

/-- assumed of the external column-minima routine: the shape part of the `smawk` contract. The
    oracle that always answers `[]` meets it (see `RowsShape`), so the hypothesis is never empty. -/
def MoShape (mo : MinimaOracle α) : Prop := ∀ frs lws, RowsShape (mo frs lws) frs.length

theorem wrapAlg_firstFit (mo : MinimaOracle α) (words : List Word) (lws : List Nat) :
    wrapAlg mo .firstFit words lws = some (wrapFirstFit (fragOf (α := α)) words (lws.map CostNum.ofNat)) := rfl

section
variable {mo : MinimaOracle α} {alg : Alg} {words : List Word} {lws : List Nat} {groups : List (List Word)}

theorem wrapAlg_optimalFit_eq_some {p : Penalties} :
    wrapAlg mo (.optimalFit p) words lws = some groups ↔
      wrapOptimalFitWith (fragOf (α := α)) p words (lws.map CostNum.ofNat)
        (mo (words.map fragOf) (lws.map CostNum.ofNat)) = .ok groups := by
  rw [wrapAlg]
  cases wrapOptimalFitWith (fragOf (α := α)) p words _ _ <;> simp

theorem wrapAlg_ne_nil (h : wrapAlg mo alg words lws = some groups) : groups ≠ [] := by
  cases alg with
  | firstFit =>
    rw [wrapAlg_firstFit, Option.some.injEq] at h
    exact h ▸ wrapFirstFit_ne_nil _ _ _
  | optimalFit p => exact wrapOptimalFitWith_ne_nil _ p words _ _ groups (wrapAlg_optimalFit_eq_some.mp h)

theorem wrapAlg_partition (hmo : MoShape mo) (h : wrapAlg mo alg words lws = some groups) :
    groups.flatten = words ∧ groups ≠ [] ∧ (words ≠ [] → ∀ g ∈ groups, g ≠ []) := by
  have hne := wrapAlg_ne_nil h
  cases alg with
  | firstFit =>
    rw [wrapAlg_firstFit, Option.some.injEq] at h
    subst h
    exact ⟨wrapFirstFit_flatten _ _ _, hne, wrapFirstFit_nonempty _ _ _⟩
  | optimalFit p =>
    rw [wrapAlg_optimalFit_eq_some] at h
    have hshape := hmo (words.map fragOf) (lws.map CostNum.ofNat)
    rw [List.length_map] at hshape
    rcases optimalFit_partition (fragOf (α := α)) p words (lws.map CostNum.ofNat) _ hshape with ho | ⟨ls, h1, h2, h3, -⟩
    · cases ho.symm.trans h
    · obtain rfl := OfResult.ok.inj (h1.symm.trans h)
      exact ⟨h2, hne, h3⟩

end

/-- `isInf` is constantly false over `Int`, so optimal-fit has no `OverflowError` for the `unwrap()`
    at wrap_algorithms.rs:174 to hit -/
theorem wrapAlg_total (mo : MinimaOracle Int) (hmo : MoShape mo) (alg : Alg) (frs : List Word) (lws : List Nat) :
    ∃ G, wrapAlg mo alg frs lws = some G := by
  cases alg with
  | firstFit => exact ⟨_, rfl⟩
  | optimalFit p =>
    have hsh := hmo (frs.map fragOf) (lws.map CostNum.ofNat)
    rw [List.length_map] at hsh
    obtain ⟨ls, hls, _⟩ := optimalFit_partition_int (fragOf (α := Int)) p frs (lws.map CostNum.ofNat) _ hsh
    exact ⟨ls, wrapAlg_optimalFit_eq_some.mpr hls⟩

/-- the line widths `wrap_single_line_slow_path` hands to the algorithm -/
def lineWidths (env : Env) (o : Opts) (nPrev : Nat) : List Nat :=
  [if nPrev = 0 then o.width - displayWidth env.cw o.initialIndent
   else o.width - displayWidth env.cw o.subsequentIndent,
   o.width - displayWidth env.cw o.subsequentIndent]

/-- the model and the statements of C05 and C14 spell the `if` over the widths, those of C02 the
    width next to `indentOf` -/
theorem lineWidths_eq (env : Env) (o : Opts) (nPrev : Nat) :
    lineWidths env o nPrev = [o.width - displayWidth env.cw (indentOf o nPrev),
      o.width - displayWidth env.cw o.subsequentIndent] := by
  rw [lineWidths, indentOf, apply_ite (o.width - displayWidth env.cw ·)]

/-- `line_widths.get(k).unwrap_or(default)` on the two-element slice -/
theorem getD_defaultLw_pair (a b : Nat) (k : Nat) :
    (List.map (CostNum.ofNat (α := α)) [a, b]).getD k (defaultLw (List.map (CostNum.ofNat (α := α)) [a, b])) =
      CostNum.ofNat (if k = 0 then a else b) := by
  match k with
  | 0 => rfl
  | 1 => rfl
  | k + 2 => rfl

section
variable (env : Env) (mo : MinimaOracle α) (o : Opts) (line : Text) (nPrev : Nat)

theorem wrapSingleLineSlow_eq :
    wrapSingleLineSlow env mo o line nPrev =
      (pipeline env o line (o.width - displayWidth env.cw o.subsequentIndent)).bind fun frs =>
        (wrapAlg mo o.alg frs (lineWidths env o nPrev)).bind fun G => reassemble o line G 0 nPrev := by
  unfold wrapSingleLineSlow lineWidths
  simp only
  cases pipeline env o line (o.width - displayWidth env.cw o.subsequentIndent) with
  | none => rfl
  | some frs => simp only [Option.bind_some]; cases wrapAlg mo o.alg frs _ <;> rfl

variable {env mo o line nPrev} {ds : List LineD}

theorem wrapSingleLineSlow_of_groups {frs : List Word} {G : List (List Word)}
    (hp : pipeline env o line (o.width - displayWidth env.cw o.subsequentIndent) = some frs)
    (ht : wordsText frs = line) (hg : wrapAlg mo o.alg frs (lineWidths env o nPrev) = some G)
    (hf : G.flatten = frs) : wrapSingleLineSlow env mo o line nPrev = some (specLines o G 0 nPrev) := by
  rw [wrapSingleLineSlow_eq, hp, Option.bind_some, hg, Option.bind_some]
  exact reassemble_eq_spec o line [] G 0 nPrev (by simp [hf, ht]) rfl

theorem wrapSingleLineSlow_inv (hmo : MoShape mo) (hr : SplitterInRange env.isAlnum o.splitter)
    (h : wrapSingleLineSlow env mo o line nPrev = some ds) :
    ∃ frs G, pipeline env o line (o.width - displayWidth env.cw o.subsequentIndent) = some frs ∧
      wrapAlg mo o.alg frs (lineWidths env o nPrev) = some G ∧
      wordsText frs = line ∧ G.flatten = frs ∧ ds = specLines o G 0 nPrev := by
  rw [wrapSingleLineSlow_eq] at h
  obtain ⟨frs, hp, h⟩ := Option.bind_eq_some_iff.mp h
  obtain ⟨G, hg, h⟩ := Option.bind_eq_some_iff.mp h
  have ht := (pipeline_contig env o hr line _ frs hp).1
  have hf := (wrapAlg_partition hmo hg).1
  rw [reassemble_eq_spec o line [] G 0 nPrev (by simp [hf, ht]) rfl, Option.some.injEq] at h
  exact ⟨frs, G, hp, hg, ht, hf, h.symm⟩

theorem wrapSingleLineSlow_indent_pen (hmo : MoShape mo) (hr : SplitterInRange env.isAlnum o.splitter)
    (h : wrapSingleLineSlow env mo o line nPrev = some ds)
    (hnp : ∀ frs, pipeline env o line (o.width - displayWidth env.cw o.subsequentIndent) = some frs →
      ∀ w ∈ frs, w.pen = []) :
    ∀ d ∈ ds, (d.indent = o.initialIndent ∨ d.indent = o.subsequentIndent) ∧ d.pen = [] := by
  obtain ⟨frs, G, hp, -, -, p1, rfl⟩ := wrapSingleLineSlow_inv hmo hr h
  intro d hd
  obtain ⟨pre, g, post, i, k, rfl, rfl⟩ := specLines_mem_line o G 0 nPrev d hd
  exact ⟨indentOf_cases o k, groupPen_eq_nil g fun w hw => hnp frs hp w
    (p1 ▸ List.mem_flatten.mpr ⟨g, List.mem_append_right _ List.mem_cons_self, hw⟩)⟩

/-- the line the byte-length shortcut returns -/
def bareLine (line : Text) : LineD :=
  { indent := [], start := 0, len := blen (trimEndSp line), slice := trimEndSp line, pen := [],
    borrowed := true, inBuf := true }

@[simp] theorem bareLine_render (line : Text) : (bareLine line).render = trimEndSp line := by
  simp [bareLine, LineD.render]

variable (env mo o line nPrev) in
/-- the byte-length shortcut or the slow path (wrap.rs:205-209) -/
theorem wrapSingleLine_eq :
    wrapSingleLine env mo o line nPrev =
      if blen line < o.width ∧ indentOf o nPrev = [] then some [bareLine line]
      else wrapSingleLineSlow env mo o line nPrev := by
  simp only [wrapSingleLine, indentOf, List.isEmpty_iff, bareLine]
  congr

variable (env mo) in
theorem wrapSingleLine_short (hw : blen line < o.width) (hi : indentOf o nPrev = []) :
    wrapSingleLine env mo o line nPrev = some [bareLine line] := by
  rw [wrapSingleLine_eq, if_pos ⟨hw, hi⟩]

variable (env mo) in
theorem wrapSingleLine_long (h : ¬ (blen line < o.width ∧ indentOf o nPrev = [])) :
    wrapSingleLine env mo o line nPrev = wrapSingleLineSlow env mo o line nPrev := by
  rw [wrapSingleLine_eq, if_neg h]

/-- what `wrap_single_line` reads of the options and of the number of earlier lines, apart from the
    indents its lines carry -/
def wrapInput (env : Env) (o : Opts) (line : Text) (n : Nat) :=
  (o.width, o.alg, pipeline env o line (o.width - displayWidth env.cw o.subsequentIndent),
    lineWidths env o n, (indentOf o n).isEmpty)

/-- `f` is a view of the lines that cannot tell the indents of the two runs apart (`hf`) -/
theorem wrapSingleLine_map_congr {β : Type} (f : LineD → β) (env : Env) (mo : MinimaOracle α) {o o' : Opts}
    {line : Text} {n n' : Nat} (hin : wrapInput env o' line n' = wrapInput env o line n)
    (hf : ∀ k idx len s pen b, f (lineWith (indentOf o' (n' + k)) idx len s pen b) =
      f (lineWith (indentOf o (n + k)) idx len s pen b)) :
    (wrapSingleLine env mo o' line n').map (·.map f) = (wrapSingleLine env mo o line n).map (·.map f) := by
  simp only [wrapInput, Prod.mk.injEq] at hin
  obtain ⟨hw, halg, hp, hlw, hi⟩ := hin
  simp only [wrapSingleLine_eq, ← List.isEmpty_iff, hw, hi]
  split
  · rfl
  · -- pipeline, algorithm and line widths agree, so both runs reassemble the same groups
    simp only [wrapSingleLineSlow_eq, hp, halg, hlw, Option.map_bind, Function.comp_def,
      reassemble_map_congr f o o' line _ 0 n n' hf]

theorem wrapSingleLine_inv (h : wrapSingleLine env mo o line nPrev = some ds) :
    (blen line < o.width ∧ indentOf o nPrev = [] ∧ ds = [bareLine line]) ∨
      wrapSingleLineSlow env mo o line nPrev = some ds := by
  rw [wrapSingleLine_eq] at h
  split at h
  · next hc => exact Or.inl ⟨hc.1, hc.2, (Option.some.inj h).symm⟩
  · exact Or.inr h

/-- on any groups: nothing here depends on whether the slices exist -/
theorem reassemble_lines {G : List (List Word)} {idx n : Nat} (h : reassemble o line G idx n = some ds) :
    ds.length = G.length ∧ ∀ k (d : LineD), ds[k]? = some d →
      d.indent = indentOf o (n + k) ∧ d.borrowed = (d.indent.isEmpty && d.pen.isEmpty) := by
  induction G generalizing idx n ds with
  | nil =>
    obtain rfl : [] = ds := Option.some.inj h
    exact ⟨rfl, fun k d hk => by cases hk⟩
  | cons g gs ih =>
    rw [reassemble_cons] at h
    obtain ⟨s, -, h⟩ := Option.bind_eq_some_iff.mp h
    obtain ⟨r, hr, rfl⟩ := Option.map_eq_some_iff.mp h
    obtain ⟨hlen, hrest⟩ := ih hr
    refine ⟨congrArg Nat.succ hlen, fun k d hk => ?_⟩
    cases k with
    | zero =>
      obtain rfl := Option.some.inj hk
      exact ⟨rfl, rfl⟩
    | succ k => exact Nat.add_right_comm n 1 k ▸ hrest k d hk

theorem wrapSingleLine_indent (h : wrapSingleLine env mo o line nPrev = some ds) :
    ds ≠ [] ∧ ∀ k (d : LineD), ds[k]? = some d →
      d.indent = indentOf o (nPrev + k) ∧ d.borrowed = (d.indent.isEmpty && d.pen.isEmpty) := by
  rcases wrapSingleLine_inv h with ⟨_, hi, rfl⟩ | h
  · refine ⟨List.cons_ne_nil _ _, fun k d hk => ?_⟩
    cases k with
    | zero => exact Option.some.inj hk ▸ ⟨hi.symm, rfl⟩
    | succ k => cases hk
  · rw [wrapSingleLineSlow_eq] at h
    obtain ⟨frs, -, h⟩ := Option.bind_eq_some_iff.mp h
    obtain ⟨G, hg, h⟩ := Option.bind_eq_some_iff.mp h
    obtain ⟨hlen, hind⟩ := reassemble_lines h
    have hne := wrapAlg_ne_nil hg
    exact ⟨fun he => hne (List.length_eq_zero_iff.mp (by rw [← hlen, he]; rfl)), hind⟩

theorem groupGap_spaces (cw : Char → Nat) (g : List Word) (h : ∀ w ∈ g, FragOk cw w) :
    ∀ c ∈ groupGap g, c = SP := by
  unfold groupGap
  cases hl : g.getLast? with
  | none => simp
  | some last => exact (h last (List.mem_of_getLast? hl)).1

/-- what the paragraph loop needs of one paragraph's lines -/
structure LineSpec (o : Opts) (line : Text) (nPrev : Nat) (ds : List LineD) : Prop where
  nonempty : ds ≠ []
  decomp : ∃ gaps : List Text, gaps.length = ds.length ∧ Decomp 0 (ds.zip gaps) line ∧
    ∀ g ∈ gaps, ∀ c ∈ g, c = SP
  indent : ∀ k (d : LineD), ds[k]? = some d →
    d.indent = (if nPrev + k = 0 then o.initialIndent else o.subsequentIndent) ∧
    d.borrowed = (d.indent.isEmpty && d.pen.isEmpty)

/-- only the decomposition needs contiguous fragments (splitter in range) and an ordered partition
    (the shape contract); the rest is `wrapSingleLine_indent` -/
theorem wrapSingleLine_spec (hmo : MoShape mo) (hr : SplitterInRange env.isAlnum o.splitter)
    (h : wrapSingleLine env mo o line nPrev = some ds) : LineSpec o line nPrev ds := by
  obtain ⟨hne, hind⟩ := wrapSingleLine_indent h
  refine ⟨hne, ?_, hind⟩
  rcases wrapSingleLine_inv h with ⟨_, _, rfl⟩ | h
  · refine ⟨[line.drop (trimEndSp line).length], rfl, ?_, ?_⟩
    · exact ⟨rfl, rfl, [], ((List.append_nil _).trans (trimEndSp_append_rest line)).symm, rfl⟩
    · exact List.forall_mem_singleton.mpr (trimEndSp_rest_spaces line)
  · obtain ⟨frs, G, hp, hg, ht, hf, rfl⟩ := wrapSingleLineSlow_inv hmo hr h
    refine ⟨G.map groupGap, by rw [List.length_map, specLines_length], ?_, ?_⟩
    · rw [← ht, ← hf]; exact specLines_decomp o G 0 nPrev
    · intro g hg
      obtain ⟨g0, hg0, rfl⟩ := List.mem_map.mp hg
      refine groupGap_spaces env.cw g0 fun w hw => (pipeline_contig env o hr line _ frs hp).2 w ?_
      rw [← hf]; exact List.mem_flatten.mpr ⟨g0, hg0, hw⟩

end
end
end TW
