/-
  `online_column_minima` on an online matrix `M[i, j] = D i + c i j` (`D i` = the minimum of
  column `i`, known once column `i` is finished) that is totally monotone above the diagonal in
  the strict form: the vector returned holds, for every column `j ≥ 1`, a row `r < j` with
  `D j = D r + c r j ≤ D i + c i j` for all `i < j` (`onlineColumnMinima_min`). The invariant
  `OcmInv2` is after Galil–Park / Eppstein; `OcmInv2.step` says what an iteration has to establish.
-/
import Lemmas.SmawkMin
import Lemmas.SmawkLoop
namespace TW

abbrev Vec := List (Nat × Int)

def Dof (res : Vec) (j : Nat) : Int := (res.getD j (0, 0)).2
def Rof (res : Vec) (j : Nat) : Nat := (res.getD j (0, 0)).1

/-- `Opt.IsChainTo` of Lemmas/OptimalCore.lean on a vector: that file needs Mathlib, the `smawk`
    files import none -/
def ChainUpTo (c : Nat → Nat → Int) (init : Int) (res : Vec) (k : Nat) : Prop :=
  Dof res 0 = init ∧ ∀ j, 1 ≤ j → j ≤ k → Rof res j < j ∧ Dof res j = Dof res (Rof res j) + c (Rof res j) j

def MIsCost (M : Vec → Nat → Nat → Option Int) (c : Nat → Nat → Int) (size : Nat) : Prop :=
  ∀ pre i j, VecShape pre → i < pre.length → i < j → j < size → M pre i j = some (Dof pre i + c i j)

/-- assumed only given the chain up to the larger row: while the loop runs, nothing more is known
    of the stored values -/
def OnlineTM (c : Nat → Nat → Int) (init : Int) (size : Nat) : Prop :=
  ∀ res k, ChainUpTo c init res k → ∀ i i' j j', i < i' → i' ≤ k → i' < j → j < j' → j' < size →
    Dof res i' + c i' j < Dof res i + c i j → Dof res i' + c i' j' < Dof res i + c i j'

theorem getD_eq_of_getElem? {res : Vec} {j : Nat} {e : Nat × Int} (h : res[j]? = some e) :
    res.getD j (0, 0) = e := by
  rw [List.getD_eq_getElem?_getD, h]; rfl

theorem getD_congr {res res' : Vec} {j : Nat} (h : res'[j]? = res[j]?) :
    res'.getD j (0, 0) = res.getD j (0, 0) := by
  rw [List.getD_eq_getElem?_getD, List.getD_eq_getElem?_getD, h]

theorem Dof_congr {res res' : Vec} {j : Nat} (h : res'[j]? = res[j]?) :
    Dof res' j = Dof res j ∧ Rof res' j = Rof res j := by
  unfold Dof Rof; rw [getD_congr h]; exact ⟨rfl, rfl⟩

theorem Dof_of_getElem? {res : Vec} {j : Nat} {e : Nat × Int} (h : res[j]? = some e) :
    Dof res j = e.2 ∧ Rof res j = e.1 := by
  unfold Dof Rof; rw [getD_eq_of_getElem? h]; exact ⟨rfl, rfl⟩

/-- The invariant of the `while` loop on a totally monotone online matrix.
    `ach`: every stored value is achieved by its stored row; `rowb`: beyond `finished` that row
    lies below `finished`.
    `A`: columns up to `finished` hold their minimum over all rows (they are final).
    `B`: tentative columns hold at most the minimum over the rows `base .. finished-1`.
    `C`: a row `q` below `base` is, in every later column `j`, either already accounted for in the
    stored value or dominated by a row `p` in `base .. finished-1`. The first alternative is
    needed because cases two and four set `tentative` back to `finished + 1` while the columns
    beyond keep the values case one stored; those values go on counting, since case one
    overwrites an entry only by a strictly smaller one (`v < result[col].1`, `Offered`). -/
structure OcmInv2 (c : Nat → Nat → Int) (init : Int) (size : Nat) (s : Ocm Int) : Prop where
  base : OcmInv size s
  t_ge : s.finished ≤ s.tentative
  d0 : Dof s.result 0 = init
  ach : ∀ j, 1 ≤ j → j < s.result.length →
    Dof s.result j = Dof s.result (Rof s.result j) + c (Rof s.result j) j
  rowb : ∀ j, s.finished < j → j < s.result.length → Rof s.result j < s.finished
  A : ∀ j, 1 ≤ j → j ≤ s.finished → ∀ i, i < j → Dof s.result j ≤ Dof s.result i + c i j
  B : ∀ j, s.finished < j → j ≤ s.tentative → ∀ q, s.base ≤ q → q < s.finished →
    Dof s.result j ≤ Dof s.result q + c q j
  C : ∀ j, s.finished < j → j < size → ∀ q, q < s.base →
    (j < s.result.length ∧ Dof s.result j ≤ Dof s.result q + c q j) ∨
    (∃ p, s.base ≤ p ∧ p < s.finished ∧ Dof s.result p + c p j ≤ Dof s.result q + c q j)

theorem Rof_lt {res : Vec} (h : VecShape res) {j : Nat} (h1 : 1 ≤ j) (hj : j < res.length) : Rof res j < j := by
  unfold Rof
  rw [List.getD_eq_getElem?_getD, List.getElem?_eq_getElem hj]
  exact h j h1 res[j] (List.getElem?_eq_getElem hj)

theorem OcmInv2.init (c : Nat → Nat → Int) (init : Int) {size : Nat} (hsz : 0 < size) :
    OcmInv2 c init size ⟨[(0, init)], 0, 0, 0⟩ :=
  ⟨OcmInv.init size hsz init, Nat.le_refl _, rfl, fun _ h1 hl => absurd h1 (Nat.not_le_of_lt hl),
    fun _ hj hl => absurd hj (Nat.not_le_of_lt hl), fun _ h1 hj => absurd h1 (Nat.not_lt.mpr hj),
    fun _ h1 hj => absurd h1 (Nat.not_lt.mpr hj), fun _ _ _ _ hq => absurd hq (Nat.not_lt_zero _)⟩

section
variable {M : Vec → Nat → Nat → Option Int} {c : Nat → Nat → Int} {init : Int} {size : Nat} {s : Ocm Int}

theorem OcmInv2.chain (inv : OcmInv2 c init size s) : ChainUpTo c init s.result s.finished := by
  refine ⟨inv.d0, fun j h1 hj => ?_⟩
  have hl : j < s.result.length := Nat.lt_of_le_of_lt hj inv.base.fin_lt
  exact ⟨Rof_lt inv.base.shape h1 hl, inv.ach j h1 hl⟩

theorem MIsCost.ok (h : MIsCost M c size) : MOk M size := fun pre i j hs hi hij hj => by
  rw [h pre i j hs hi hij hj]; rfl

theorem ocmM_val (hM : MIsCost M c size) (inv : OcmInv size s) {i j : Nat}
    (hi : i ≤ s.finished) (hij : i < j) (hj : j < size) :
    ocmM M size s i j = some (Dof s.result i + c i j) := by
  obtain ⟨pre, e, h1, h2, h3⟩ := ocmM_eq M inv hi hij hj
  rw [e, hM pre i j h1 h2 hij hj, (Dof_congr h3).1]

theorem OcmInv2.acc (inv : OcmInv2 c init size s) {j q : Nat} (h1 : s.finished < j) (h2 : j ≤ s.tentative)
    (hq : q < s.finished) : Dof s.result j ≤ Dof s.result q + c q j := by
  by_cases hqb : s.base ≤ q
  · exact inv.B j h1 h2 q hqb hq
  · rcases inv.C j h1 (Nat.lt_of_le_of_lt h2 (Nat.lt_of_lt_of_le inv.base.ten_lt inv.base.len_le)) q
      (Nat.lt_of_not_le hqb) with h | ⟨p, hp1, hp2, hp3⟩
    · exact h.2
    · exact Int.le_trans (inv.B j h1 h2 p hp1 hp2) hp3

/-- row `finished` beats the value stored for a tentative column `pc`: it may serve as the only
    active row, since by total monotonicity it beats every earlier row beyond `tentative` -/
theorem OcmInv2.newbase (inv : OcmInv2 c init size s) (hTM : OnlineTM c init size) {pc : Nat}
    (h1 : s.finished < pc) (h2 : pc ≤ s.tentative)
    (hbeat : Dof s.result s.finished + c s.finished pc < Dof s.result pc) :
    ∀ j, s.finished < j → j < size → ∀ q, q < s.finished →
      (j < s.result.length ∧ Dof s.result j ≤ Dof s.result q + c q j) ∨
      (∃ p, s.finished ≤ p ∧ p ≤ s.finished ∧ Dof s.result p + c p j ≤ Dof s.result q + c q j) := by
  intro j hj hjs q hq
  by_cases hjt : j ≤ s.tentative
  · exact Or.inl ⟨Nat.lt_of_le_of_lt hjt inv.base.ten_lt, inv.acc hj hjt hq⟩
  · exact Or.inr ⟨s.finished, Nat.le_refl _, Nat.le_refl _,
      Int.le_of_lt (hTM s.result s.finished inv.chain q s.finished pc j hq (Nat.le_refl _) h1
        (Nat.lt_of_le_of_lt h2 (Nat.lt_of_not_le hjt)) hjs (Int.lt_of_lt_of_le hbeat (inv.acc h1 h2 hq)))⟩

/-- what an iteration has to establish, with the values of the old vector on the right-hand sides -/
theorem OcmInv2.step (inv : OcmInv2 c init size s) {res' : Vec} {b t : Nat}
    (hb' : OcmInv size ⟨res', s.finished + 1, b, t⟩) (ht : s.finished + 1 ≤ t)
    (hlo : ∀ j, j ≤ s.finished → res'[j]? = s.result[j]?)
    (hhi : ∀ j, s.finished < j → j < res'.length →
      (j < s.result.length ∧ res'[j]? = s.result[j]?) ∨
      (Rof res' j ≤ s.finished ∧ Dof res' j = Dof s.result (Rof res' j) + c (Rof res' j) j))
    (hnew : ∀ i, i ≤ s.finished → Dof res' (s.finished + 1) ≤ Dof s.result i + c i (s.finished + 1))
    (hB : ∀ j, s.finished + 1 < j → j ≤ t → ∀ q, b ≤ q → q ≤ s.finished →
      Dof res' j ≤ Dof s.result q + c q j)
    (hC : ∀ j, s.finished + 1 < j → j < size → ∀ q, q < b →
      (j < res'.length ∧ Dof res' j ≤ Dof s.result q + c q j) ∨
      (∃ p, b ≤ p ∧ p ≤ s.finished ∧ Dof s.result p + c p j ≤ Dof s.result q + c q j)) :
    OcmInv2 c init size ⟨res', s.finished + 1, b, t⟩ := by
  have hfl := inv.base.fin_lt
  have hD : ∀ j, j ≤ s.finished → Dof res' j = Dof s.result j := fun j hj => (Dof_congr (hlo j hj)).1
  refine ⟨hb', ht, (hD 0 (Nat.zero_le _)).trans inv.d0, fun j h1 hl => ?_, fun j hj hl => ?_,
    fun j h1 hj i hij => ?_, fun j hj hjt q hq1 hq2 => ?_, fun j hj hjs q hq => ?_⟩
  · dsimp only at hl ⊢
    by_cases hjf : j ≤ s.finished
    · have hjl := Nat.lt_of_le_of_lt hjf hfl
      rw [hD j hjf, (Dof_congr (hlo j hjf)).2,
        hD _ (Nat.le_trans (Nat.le_of_lt (Rof_lt inv.base.shape h1 hjl)) hjf)]
      exact inv.ach j h1 hjl
    · rcases hhi j (Nat.lt_of_not_le hjf) hl with ⟨h, e⟩ | ⟨h, e⟩
      · rw [(Dof_congr e).1, (Dof_congr e).2, hD _ (Nat.le_of_lt (inv.rowb j (Nat.lt_of_not_le hjf) h))]
        exact inv.ach j h1 h
      · rw [e, hD _ h]
  · dsimp only at hj hl ⊢
    rcases hhi j (Nat.lt_of_succ_lt hj) hl with ⟨h, e⟩ | ⟨h, _⟩
    · rw [(Dof_congr e).2]
      exact Nat.lt_succ_of_lt (inv.rowb j (Nat.lt_of_succ_lt hj) h)
    · exact Nat.lt_succ_of_le h
  · dsimp only at hj ⊢
    have hi : i ≤ s.finished := Nat.le_of_lt_succ (Nat.lt_of_lt_of_le hij hj)
    rw [hD i hi]
    rcases Nat.lt_or_eq_of_le hj with h | rfl
    · rw [hD j (Nat.le_of_lt_succ h)]
      exact inv.A j h1 (Nat.le_of_lt_succ h) i hij
    · exact hnew i hi
  · dsimp only at hj hjt hq1 hq2 ⊢
    rw [hD q (Nat.le_of_lt_succ hq2)]
    exact hB j hj hjt q hq1 (Nat.le_of_lt_succ hq2)
  · dsimp only at hj hq ⊢
    rw [hD q (Nat.le_of_lt_succ (Nat.lt_of_lt_of_le hq hb'.base_le))]
    rcases hC j hj hjs q hq with h | ⟨p, hp1, hp2, hp3⟩
    · exact Or.inl h
    · exact Or.inr ⟨p, hp1, Nat.lt_succ_of_le hp2, by rw [hD p hp2]; exact hp3⟩

theorem Offered.dof {res res' : Vec} {j row : Nat} {v : Int} (h : Offered res[j]? res'[j]? row v) :
    Dof res' j ≤ v ∧ (j < res.length → Dof res' j ≤ Dof res j) ∧
      ((j < res.length ∧ res'[j]? = res[j]?) ∨ (Rof res' j = row ∧ Dof res' j = v)) := by
  rcases h with ⟨e1, e2⟩ | ⟨e0, e1, e2⟩
  · refine ⟨Int.le_of_eq (Dof_of_getElem? e1).1, fun hl => ?_, Or.inr ⟨(Dof_of_getElem? e1).2, (Dof_of_getElem? e1).1⟩⟩
    have e0 := List.getElem?_eq_getElem hl
    rw [(Dof_of_getElem? e1).1, (Dof_of_getElem? e0).1]
    exact Int.le_of_lt (e2 _ e0)
  · have e := e1.trans e0.symm
    refine ⟨?_, fun _ => Int.le_of_eq (Dof_congr e).1, Or.inl ⟨(List.getElem?_eq_some_iff.mp e0).1, e⟩⟩
    rw [(Dof_of_getElem? e1).1]
    exact Int.not_lt.mp e2

/-- cases two and four: row `finished` beats the value stored for a tentative column `pc`
    (`finished + 1` in case two, `tentative` in case four) and becomes the only active row; the
    diagonal value was offered to column `finished + 1` -/
theorem OcmInv2.rebase (inv : OcmInv2 c init size s) (hTM : OnlineTM c init size) {pc : Nat}
    (h1 : s.finished < pc) (h2 : pc ≤ s.tentative)
    (hbeat : Dof s.result s.finished + c s.finished pc < Dof s.result pc)
    {res' : Vec} (hlen : res'.length = s.result.length)
    (hne : ∀ j, j ≠ s.finished + 1 → res'[j]? = s.result[j]?)
    (hat : Offered s.result[s.finished + 1]? res'[s.finished + 1]? s.finished
      (Dof s.result s.finished + c s.finished (s.finished + 1)))
    (hb' : OcmInv size ⟨res', s.finished + 1, s.finished, s.finished + 1⟩) :
    OcmInv2 c init size ⟨res', s.finished + 1, s.finished, s.finished + 1⟩ := by
  have hi : s.finished + 1 ≤ s.tentative := Nat.le_trans (Nat.succ_le_of_lt h1) h2
  obtain ⟨hle, hdec, hrow⟩ := hat.dof
  refine inv.step hb' (Nat.le_refl _) (fun j hj => hne j (Nat.ne_of_lt (Nat.lt_succ_of_le hj)))
    (fun j hj hl => ?_) (fun i hi' => ?_) (fun j hj hjt => absurd hjt (Nat.not_le_of_lt hj))
    fun j hj hjs q hq => ?_
  · rcases Nat.lt_or_eq_of_le (Nat.succ_le_of_lt hj) with h | rfl
    · exact Or.inl ⟨hlen ▸ hl, hne j (Nat.ne_of_gt h)⟩
    · exact hrow.imp_right fun ⟨e1, e2⟩ => by rw [e1, e2]; exact ⟨Nat.le_refl _, rfl⟩
  · rcases Nat.lt_or_eq_of_le hi' with h | rfl
    · exact Int.le_trans (hdec (Nat.lt_of_le_of_lt hi inv.base.ten_lt)) (inv.acc (Nat.lt_succ_self _) hi h)
    · exact hle
  · rw [hlen, (Dof_congr (hne j (Nat.ne_of_gt hj))).1]
    exact inv.newbase hTM h1 h2 hbeat j (Nat.lt_of_succ_lt hj) hjs q hq

theorem OcmInv2.third (inv : OcmInv2 c init size s) (hTM : OnlineTM c init size) (hi : s.finished + 1 ≤ s.tentative)
    (hdiag : Dof s.result (s.finished + 1) ≤ Dof s.result s.finished + c s.finished (s.finished + 1))
    (hc3 : Dof s.result s.tentative ≤ Dof s.result s.finished + c s.finished s.tentative)
    (hb' : OcmInv size { s with finished := s.finished + 1 }) :
    OcmInv2 c init size { s with finished := s.finished + 1 } := by
  have htl := inv.base.ten_lt
  refine inv.step hb' hi (fun _ _ => rfl) (fun j _ hl => Or.inl ⟨hl, rfl⟩) (fun i hi' => ?_)
    (fun j hj hjt q hq1 hq2 => ?_) fun j hj hjs q hq => ?_
  · rcases Nat.lt_or_eq_of_le hi' with h | rfl
    · exact inv.acc (Nat.lt_succ_self _) hi h
    · exact hdiag
  · rcases Nat.lt_or_eq_of_le hq2 with h | rfl
    · exact inv.B j (Nat.lt_of_succ_lt hj) hjt q hq1 h
    · -- row `finished` does not improve any tentative column: otherwise, by total monotonicity,
      -- it would beat the row stored for column `tentative` there
      apply Int.not_lt.mp
      intro hlt
      rcases Nat.lt_or_eq_of_le hjt with hjlt | rfl
      · have hrt := inv.rowb s.tentative hi htl
        have := hTM s.result s.finished inv.chain (Rof s.result s.tentative) s.finished j s.tentative hrt (Nat.le_refl _)
          (Nat.lt_of_succ_lt hj) hjlt (Nat.lt_of_lt_of_le htl inv.base.len_le)
          (Int.lt_of_lt_of_le hlt (inv.acc (Nat.lt_of_succ_lt hj) hjt hrt))
        rw [← inv.ach s.tentative (Nat.le_trans (Nat.le_add_left 1 _) hi) htl] at this
        exact Int.not_lt.mpr hc3 this
      · exact Int.not_lt.mpr hc3 hlt
  · rcases inv.C j (Nat.lt_of_succ_lt hj) hjs q hq with h | ⟨p, hp1, hp2, hp3⟩
    · exact Or.inl h
    · exact Or.inr ⟨p, hp1, Nat.le_of_lt hp2, hp3⟩

theorem OcmInv2.first (inv : OcmInv2 c init size s) (hM : MIsCost M c size) {tent : Nat} {mn : List Nat}
    {res' : Vec} (ht1 : s.finished < tent) (ht2 : tent < size) (st : FirstStored M size s tent mn res')
    (hmn : ∀ j, s.finished < j → j ≤ tent → ∀ q, s.base ≤ q → q ≤ s.finished →
      Dof s.result (mn.getD j 0) + c (mn.getD j 0) j ≤ Dof s.result q + c q j)
    (hb' : OcmInv size ⟨res', s.finished + 1, s.base, tent⟩) :
    OcmInv2 c init size ⟨res', s.finished + 1, s.base, tent⟩ := by
  have b5 : ∀ j, s.finished < j → j ≤ tent → Offered s.result[j]? res'[j]? (mn.getD j 0)
      (Dof s.result (mn.getD j 0) + c (mn.getD j 0) j) := by
    intro j h1 h2
    obtain ⟨v, hv, h⟩ := st.offer j h1 h2
    obtain rfl : v = _ := Option.some.inj (hv.symm.trans (ocmM_val hM inv.base (st.row j h1 h2)
      (Nat.lt_of_le_of_lt (st.row j h1 h2) h1) (Nat.lt_of_le_of_lt h2 ht2)))
    exact h
  have hmin : ∀ j, s.finished < j → j ≤ tent → ∀ q, s.base ≤ q → q ≤ s.finished →
      Dof res' j ≤ Dof s.result q + c q j := fun j h1 h2 q hq1 hq2 =>
    Int.le_trans (b5 j h1 h2).dof.1 (hmn j h1 h2 q hq1 hq2)
  have hdec : ∀ j, s.finished < j → j < s.result.length → Dof res' j ≤ Dof s.result j := by
    intro j h1 hl
    by_cases hjt : j ≤ tent
    · exact (b5 j h1 hjt).dof.2.1 hl
    · exact Int.le_of_eq (Dof_congr (st.out j fun h => hjt h.2)).1
  refine inv.step hb' ht1 (fun j hj => st.out j fun h => Nat.not_le_of_lt h.1 hj) (fun j hj hl => ?_)
    (fun i hi => ?_) (fun j hj hjt q hq1 hq2 => hmin j (Nat.lt_of_succ_lt hj) hjt q hq1 hq2)
    fun j hj hjs q hq => ?_
  · by_cases hjt : j ≤ tent
    · rcases (b5 j hj hjt).dof.2.2 with h | ⟨e1, e2⟩
      · exact Or.inl h
      · exact Or.inr (by rw [e1, e2]; exact ⟨st.row j hj hjt, rfl⟩)
    · rw [st.len] at hl
      exact Or.inl ⟨Nat.lt_of_not_le fun hle => Nat.not_le_of_lt hl (Nat.max_le.mpr ⟨hle, Nat.lt_of_not_le hjt⟩),
        st.out j fun h => hjt h.2⟩
  · by_cases hib : s.base ≤ i
    · exact hmin _ (Nat.lt_succ_self _) ht1 i hib hi
    · rcases inv.C (s.finished + 1) (Nat.lt_succ_self _) (Nat.lt_of_le_of_lt ht1 ht2) i (Nat.lt_of_not_le hib)
        with h | ⟨p, hp1, hp2, hp3⟩
      · exact Int.le_trans (hdec _ (Nat.lt_succ_self _) h.1) h.2
      · exact Int.le_trans (hmin _ (Nat.lt_succ_self _) ht1 p hp1 (Nat.le_of_lt hp2)) hp3
  · rcases inv.C j (Nat.lt_of_succ_lt hj) hjs q hq with h | ⟨p, hp1, hp2, hp3⟩
    · refine Or.inl ⟨?_, Int.le_trans (hdec j (Nat.lt_of_succ_lt hj) h.1) h.2⟩
      rw [st.len]
      exact Nat.lt_of_lt_of_le h.1 (Nat.le_max_left _ _)
    · exact Or.inr ⟨p, hp1, Nat.le_of_lt hp2, hp3⟩

theorem OcmStep.inv2 (hM : MIsCost M c size) (hTM : OnlineTM c init size) {s' : Ocm Int} (h : OcmStep M size s s')
    (inv : OcmInv2 c init size s) (hb' : OcmInv size s') : OcmInv2 c init size s' := by
  have val := @ocmM_val M c size s hM inv.base
  have rd : ∀ {j : Nat} {v : Int}, s.finished < j → j ≤ s.tentative → ocmM M size s s.finished j = some v →
      v = Dof s.result s.finished + c s.finished j := fun h1 h2 hv =>
    Option.some.inj (hv.symm.trans (val (Nat.le_refl _) h1
      (Nat.lt_of_le_of_lt h2 (Nat.lt_of_lt_of_le inv.base.ten_lt inv.base.len_le))))
  cases h with
  | @first tent mn res _ ht1 ht2 hmn st =>
    have a3 := smawkInner_min_interval (ocmM M size s) (fun i j => Dof s.result i + c i j) hmn
      (fun r _ hr col hc hd => val (Nat.le_of_lt_succ hr) (Nat.lt_of_lt_of_le hr hc) (Nat.lt_of_lt_of_le hd ht2))
      fun i i' _ hii hi' j j' hj hjj hj' => hTM s.result s.finished inv.chain i i' j j' hii
        (Nat.le_of_lt_succ hi') (Nat.lt_of_lt_of_le hi' hj) hjj (Nat.lt_of_lt_of_le hj' ht2)
    exact inv.first hM ht1 ht2 st (fun j h1 h2 q hq1 hq2 =>
      a3 j h1 (Nat.lt_succ_of_le h2) q hq1 (Nat.lt_succ_of_le hq2)) hb'
  | @second diag ri hc hd hri h2 =>
    obtain rfl := rd (Nat.lt_succ_self _) hc hd
    exact inv.rebase hTM (Nat.lt_succ_self _) hc ((Dof_of_getElem? hri).1 ▸ h2) (List.length_set ..)
      (fun j hj => List.getElem?_set_ne (Ne.symm hj))
      (.taken (List.getElem?_set_self (List.getElem?_eq_some_iff.mp hri).1)
        fun o ho => Option.some.inj (hri.symm.trans ho) ▸ h2) hb'
  | @third diag v ri rt hc hd hri h2 hv hrt h3 =>
    obtain rfl := rd (Nat.lt_succ_self _) hc hd
    obtain rfl := rd hc (Nat.le_refl _) hv
    rw [← (Dof_of_getElem? hri).1] at h2
    rw [← (Dof_of_getElem? hrt).1] at h3
    exact inv.third hTM hc (Int.not_lt.mp h2) (of_decide_eq_true h3) hb'
  | @fourth diag v ri rt hc hd hri h2 hv hrt h3 =>
    obtain rfl := rd (Nat.lt_succ_self _) hc hd
    obtain rfl := rd hc (Nat.le_refl _) hv
    rw [← (Dof_of_getElem? hrt).1] at h3
    exact inv.rebase hTM hc (Nat.le_refl _) (Int.not_le.mp fun h => h3 (decide_eq_true h)) rfl (fun _ _ => rfl)
      (.kept hri hri h2) hb'

end

/-- Finished columns are final: an iteration of the loop never changes an entry at or below
    `finished` — what `LineNumbers`' cache (never invalidated) and the closure's reads of
    `minima[i].1` rely on, and why `lnGet` may recompute line numbers from the prefix it is given.
    Stated here for the matrices of C03; none of that is used: `OcmStep.prefix_stable` with
    `ocmStep_cases` (Lemmas/SmawkLoop.lean) is the same for any matrix and any number type. -/
theorem ocmStep_prefix_stable {M : Vec → Nat → Nat → Option Int} {c : Nat → Nat → Int} {init : Int} {size : Nat}
    (hM : MIsCost M c size) (hTM : OnlineTM c init size)
    (s : Ocm Int) (inv : OcmInv2 c init size s) (hfin : s.finished < size - 1)
    (s' : Ocm Int) (he : ocmStep M size s = some s') :
    ∀ j, j ≤ s.finished → s'.result.getD j (0, 0) = s.result.getD j (0, 0) :=
  fun j hj => getD_congr ((ocmStep_cases hM.ok inv.base hfin he).prefix_stable j hj)

/-- `online_column_minima` returns true column minima of an online matrix `D i + c i j` that is
    totally monotone above the diagonal (strict form) -/
theorem onlineColumnMinima_min {M : Vec → Nat → Nat → Option Int} {c : Nat → Nat → Int} {init : Int} {size : Nat}
    (hM : MIsCost M c size) (hTM : OnlineTM c init size) (hsz : 0 < size) :
    ∃ res, onlineColumnMinima M init size = some res ∧ res.length = size ∧ Dof res 0 = init ∧
      (∀ j, 1 ≤ j → j < size → Rof res j < j ∧ Dof res j = Dof res (Rof res j) + c (Rof res j) j) ∧
      (∀ i j, i < j → j < size → Dof res j ≤ Dof res i + c i j) := by
  obtain ⟨s, e, _, inv, hf, hlen⟩ := onlineColumnMinima_inv hM.ok init hsz (OcmInv2 c init size)
    (OcmInv2.init c init hsz)
    fun s s' _ inv _ h hb' => h.inv2 hM hTM inv hb'
  refine ⟨s.result, e, hlen, inv.d0, fun j hj1 hj2 => ⟨Rof_lt inv.base.shape hj1 (hlen ▸ hj2), inv.ach j hj1 (hlen ▸ hj2)⟩,
    fun i j hij hj => inv.A j (Nat.succ_le_of_lt (Nat.zero_lt_of_lt hij)) (hf ▸ Nat.le_sub_one_of_lt hj) i hij⟩

/-! ### a bound on every value, for any matrix with bounded increments

No monotonicity here: if every matrix entry is `D i + e` with `0 ≤ e ≤ K`, every stored value —
and hence every value the closure is ever asked to add to — stays within `init + j·K`. This is
the exact-arithmetic half of "optimal-fit never reports an overflow error" (C04). -/

def MBounded (M : Vec → Nat → Nat → Option Int) (size : Nat) (K : Int) : Prop :=
  ∀ pre i j, VecShape pre → i < pre.length → i < j → j < size →
    ∃ e, M pre i j = some (Dof pre i + e) ∧ 0 ≤ e ∧ e ≤ K

theorem MBounded.ok {M : Vec → Nat → Nat → Option Int} {size : Nat} {K : Int} (h : MBounded M size K) :
    MOk M size := fun pre i j hs hi hij hj => by
  obtain ⟨e, he, _⟩ := h pre i j hs hi hij hj
  rw [he]; rfl

theorem onlineColumnMinima_bounded {M : Vec → Nat → Nat → Option Int} {size : Nat} {K : Int}
    (hM : MBounded M size K) (hK : 0 ≤ K) (init : Int) (hsz : 0 < size) :
    ∃ res, onlineColumnMinima M init size = some res ∧ res.length = size ∧
      ∀ j, j < size → init ≤ Dof res j ∧ Dof res j ≤ init + (j : Int) * K := by
  obtain ⟨res, e, hlen, hb⟩ := onlineColumnMinima_forall hM.ok init hsz
    (Q := fun j v => init ≤ v ∧ v ≤ init + (j : Int) * K)
    ⟨Int.le_refl _, Int.le_of_eq (by rw [Int.natCast_zero, Int.zero_mul, Int.add_zero])⟩
    fun pre i j hs hij hj e v he hQ hv => by
      obtain ⟨d, h1, h2, h3⟩ := hM pre i j hs (List.getElem?_eq_some_iff.mp he).1 hij hj
      obtain rfl : v = _ := Option.some.inj (hv.symm.trans h1)
      rw [(Dof_of_getElem? he).1]
      have := Int.mul_le_mul_of_nonneg_right (Int.add_one_le_iff.mpr (Int.ofNat_lt.mpr hij)) hK
      rw [Int.add_mul, Int.one_mul] at this
      refine ⟨Int.le_trans hQ.1 (Int.le_add_of_nonneg_right h2), Int.le_trans (Int.add_le_add hQ.2 h3) ?_⟩
      rw [Int.add_assoc]
      exact Int.add_le_add_left this init
  refine ⟨res, e, hlen, fun j hj => ?_⟩
  have hj' := List.getElem?_eq_getElem (hlen.symm ▸ hj)
  rw [(Dof_of_getElem? hj').1]
  exact hb j _ hj'

end TW
