/-
  `unfill` on a text that consists of indented lines joined by a line ending: the pure half of
  the `unfill ∘ fill` round trip (no reference to `wrap`).
-/
import Lemmas.Unfill
namespace TW

theorem LineEnding.str_getLast (e : LineEnding) : e.str.getLast? = some LF := by cases e <;> rfl

def LineOk (l : Text) : Prop := l ≠ [] ∧ LF ∉ l ∧ CR ∉ l

theorem nonEmptyLines_cons {a : Text} (b : Text) (h : LF ∉ a) :
    nonEmptyLines (a ++ LF :: b) = nelGo [a, []] ++ nonEmptyLines b := by
  obtain ⟨p, r, hs⟩ := splitLF_eq_cons b
  simp [nonEmptyLines, splitLF_cons_noLF a b h, hs, nelGo]

theorem nonEmptyLines_of_noLF {a : Text} (h : LF ∉ a) : nonEmptyLines a = nelGo [a] := by
  unfold nonEmptyLines; rw [splitLF_of_noLF a h]

/-- the piece before the `'\n'` is the line, with `'\r'` behind it for CRLF -/
theorem lines_append_ending (e : LineEnding) {a : Text} (b : Text) (ha : LineOk a) :
    lines (a ++ e.str ++ b) = a :: lines b ∧
      nonEmptyLines (a ++ e.str ++ b) = (a, some e) :: nonEmptyLines b := by
  obtain ⟨hne, hlf, hcr⟩ := ha
  cases e with
  | lf =>
    have h2 : a ≠ [CR] := fun h => hcr (by simp [h])
    have h3 : a.getLast? ≠ some CR := fun h => hcr (List.mem_of_getLast? h)
    rw [show a ++ LineEnding.lf.str ++ b = a ++ LF :: b from List.append_assoc a [LF] b,
      lines_cons b hlf, nonEmptyLines_cons b hlf, stripCR_noCR a hcr]
    simp [nelGo, hne, h2, h3]
  | crlf =>
    have hlf' : LF ∉ a ++ [CR] := fun h => (List.mem_append.mp h).elim hlf (by simp [CR, LF])
    rw [show a ++ LineEnding.crlf.str ++ b = (a ++ [CR]) ++ LF :: b by simp [LineEnding.str],
      lines_cons b hlf', nonEmptyLines_cons b hlf']
    simp [nelGo, stripCR, hne]

theorem foldl_detStep_replicate (e : LineEnding) (tl : Bool) (k : Nat) :
    (List.replicate k (some e) ++ [if tl then some e else none]).foldl detStep none =
      if k = 0 ∧ tl = false then none else some e := by
  cases k with
  | zero => cases tl <;> rfl
  | succ k =>
    rw [foldl_detStep]
    cases e <;> cases tl <;> simp [List.mem_replicate]

section
variable (e : LineEnding) (tl : Bool) {ls : List Text} (hne : ls ≠ []) (hok : ∀ l ∈ ls, LineOk l)
include hne hok

theorem lines_joined :
    lines (joinWith e.str ls ++ (if tl then e.str else [])) = ls ∧
    (nonEmptyLines (joinWith e.str ls ++ (if tl then e.str else []))).map (·.2) =
      List.replicate (ls.length - 1) (some e) ++ [if tl then some e else none] := by
  fun_induction joinWith e.str ls with
  | case1 => exact absurd rfl hne
  | case2 a =>
    have ha := hok a (List.mem_singleton_self a)
    cases tl with
    | true =>
      obtain ⟨h1, h2⟩ := lines_append_ending e [] ha
      rw [List.append_nil] at h1 h2
      rw [if_pos rfl, h1, h2]
      exact ⟨rfl, rfl⟩
    | false =>
      rw [if_neg Bool.false_ne_true, List.append_nil, lines_of_noLF ha.2.1, nonEmptyLines_of_noLF ha.2.1, nelGo,
        List.isEmpty_eq_false_iff.mpr ha.1]
      exact ⟨rfl, rfl⟩
  | case3 a b r ih =>
    obtain ⟨i1, i2⟩ := ih (List.cons_ne_nil b r) fun l hl => hok l (List.mem_cons_of_mem a hl)
    obtain ⟨h1, h2⟩ := lines_append_ending e (joinWith e.str (b :: r) ++ if tl then e.str else [])
      (hok a List.mem_cons_self)
    rw [List.append_assoc, h1, h2, i1, List.map_cons, i2]
    exact ⟨rfl, rfl⟩

theorem detected_joined :
    detected (joinWith e.str ls ++ (if tl then e.str else [])) =
      if ls.length - 1 = 0 ∧ tl = false then none else some e := by
  rw [detected, (lines_joined e tl hne hok).2, foldl_detStep_replicate]

theorem trailer_joined :
    trailer (joinWith e.str ls ++ (if tl then e.str else [])) = if tl then e.str else [] := by
  unfold trailer
  rw [detected_joined e tl hne hok]
  cases tl with
  | true => simp [endsWith_append_self]
  | false =>
    -- the last line is non-empty and `'\n'`-free, so the text does not end in `'\n'`
    have hlm := hok _ (List.getLast_mem hne)
    have hend := endsWith_eq_false_of_getLast e.str_getLast
      (joinWith_getLast e.str _ _ (List.getLast?_eq_some_getLast hne) hlm.1 ▸ fun h => hlm.2.1 (List.mem_of_getLast? h))
    by_cases hc : ls.length - 1 = 0 <;> simp [hc, hend]

end

/-! ### the indented lines -/

theorem not_mem_of_all_prefixChar {ind : Text} (h : ind.all isPrefixChar = true) {c : Char}
    (hc : isPrefixChar c = false) : c ∉ ind :=
  fun hm => by simp [List.all_eq_true.mp h c hm] at hc

theorem lineOk_indent_append {ind s : Text} (hi : ind.all isPrefixChar = true) (hs : BodyOk s) :
    LineOk (ind ++ s) := by
  obtain ⟨⟨c, r, rfl, _⟩, h2, h3⟩ := hs
  exact ⟨by simp, fun h => (List.mem_append.mp h).elim (not_mem_of_all_prefixChar hi (by decide)) h2,
    fun h => (List.mem_append.mp h).elim (not_mem_of_all_prefixChar hi (by decide)) h3⟩

theorem prefixOf_indent {ind s : Text} (hi : ind.all isPrefixChar = true) (hs : BodyOk s) :
    prefixOf (ind ++ s) = ind := by
  obtain ⟨⟨c, r, rfl, hc⟩, _, _⟩ := hs
  simp [prefixOf, List.takeWhile_append_of_pos (List.all_eq_true.mp hi), hc]

theorem subIndent_indented {si : Text} (hsi : si.all isPrefixChar = true) {ss : List Text}
    (hss : ∀ s ∈ ss, BodyOk s) : subIndent (ss.map (si ++ ·)) = if ss = [] then [] else si := by
  cases ss with
  | nil => rfl
  | cons b r =>
    rw [if_neg (List.cons_ne_nil b r)]
    exact lcpAll_const (by simp) (List.forall_mem_map.mpr (List.forall_mem_map.mpr fun s hs =>
      prefixOf_indent hsi (hss s hs)))

theorem unfillBody_indented (ii si s0 : Text) (ss : List Text) :
    unfillBody ii (if ss = [] then [] else si) ((ii ++ s0) :: ss.map (si ++ ·)) = joinWith [SP] (s0 :: ss) := by
  cases ss with
  | nil => simp [unfillBody]
  | cons b r => simp [unfillBody, joinWith_eq_flatten, List.map_map, Function.comp_def]

/-! ### `unfill` on the joined lines -/

theorem unfill_joined (cw : Char → Nat) (e : LineEnding) (tl : Bool) {ii si s0 : Text} {ss : List Text}
    (hii : ii.all isPrefixChar = true) (hsi : si.all isPrefixChar = true)
    (h0 : BodyOk s0) (hss : ∀ s ∈ ss, BodyOk s) :
    unfill cw (joinWith e.str ((ii ++ s0) :: ss.map (si ++ ·)) ++ (if tl then e.str else [])) =
      some { text := joinWith [SP] (s0 :: ss) ++ (if tl then e.str else []),
             width := maxWidth cw 0 ((ii ++ s0) :: ss.map (si ++ ·)),
             initialIndent := ii,
             subsequentIndent := if ss = [] then [] else si,
             lineEnding := if ss = [] ∧ tl = false then .lf else e } := by
  have hok : ∀ l ∈ (ii ++ s0) :: ss.map (si ++ ·), LineOk l :=
    List.forall_mem_cons.mpr ⟨lineOk_indent_append hii h0,
      List.forall_mem_map.mpr fun s hs => lineOk_indent_append hsi (hss s hs)⟩
  have hne : (ii ++ s0) :: ss.map (si ++ ·) ≠ [] := List.cons_ne_nil _ _
  rw [unfill_eq, (lines_joined e tl hne hok).1, detected_joined e tl hne hok, trailer_joined e tl hne hok,
    List.filter_eq_self.mpr (fun l hl => by simpa using (hok l hl).1)]
  simp only [List.head?_cons, Option.map_some, Option.getD_some, List.tail_cons, prefixOf_indent hii h0,
    subIndent_indented hsi hss, unfillBody_indented]
  by_cases hc : ss = [] ∧ tl = false <;> simp [hc]

theorem unfill_lines (cw : Char → Nat) (e : LineEnding) (ii si s0 : Text) (ss : List Text)
    (hii : ii.all isPrefixChar = true) (hsi : si.all isPrefixChar = true)
    (h0 : BodyOk s0) (hss : ∀ s ∈ ss, BodyOk s) :
    unfill cw (joinWith e.str ((ii ++ s0) :: ss.map (si ++ ·))) =
      some { text := joinWith [SP] (s0 :: ss),
             width := maxWidth cw 0 ((ii ++ s0) :: ss.map (si ++ ·)),
             initialIndent := ii,
             subsequentIndent := if ss = [] then [] else si,
             lineEnding := if ss = [] then .lf else e } := by
  simpa using unfill_joined cw e false hii hsi h0 hss

theorem unfill_lines_trailing (cw : Char → Nat) (e : LineEnding) (ii si s0 : Text) (ss : List Text)
    (hii : ii.all isPrefixChar = true) (hsi : si.all isPrefixChar = true)
    (h0 : BodyOk s0) (hss : ∀ s ∈ ss, BodyOk s) :
    unfill cw (joinWith e.str ((ii ++ s0) :: ss.map (si ++ ·)) ++ e.str) =
      some { text := joinWith [SP] (s0 :: ss) ++ e.str,
             width := maxWidth cw 0 ((ii ++ s0) :: ss.map (si ++ ·)),
             initialIndent := ii,
             subsequentIndent := if ss = [] then [] else si,
             lineEnding := e } := by
  simpa using unfill_joined cw e true hii hsi h0 hss

end TW
