/-
  The Unicode separator loop (`uniGo`): the break opportunities it uses, what its cuts are, the
  contract clause LB7 on the opportunities, and where it places a boundary next to escape sequences.
-/
import Lemmas.Ansi
import Lemmas.Words
namespace TW

/-! ### the opportunities used -/

theorem keepOpp_append (l r : Text) :
    keepOpp (l ++ r) (blen l) = some (l.getLast? != some HY && l.getLast? != some SHY) := by
  simp [keepOpp, charBefore?, splitBytes?_append]

theorem filterOpps_spec (stripped : Text) (l os : List Nat) (h : filterOpps stripped l = some os) :
    os = l.filter (fun o => keepOpp stripped o = some true) ∧ ∀ o ∈ l, (keepOpp stripped o).isSome := by
  -- the cases of `filterOpps`: no opportunity; the test of `o` and the rest both return; one of them fails
  fun_induction filterOpps stripped l generalizing os with
  | case1 => cases h; exact ⟨rfl, nofun⟩
  | case2 o l k r hr hk ih =>
    cases h
    obtain ⟨rfl, h2⟩ := ih r hr
    refine ⟨?_, List.forall_mem_cons.mpr ⟨by rw [hk]; rfl, h2⟩⟩
    rw [List.filter_cons, hk]
    cases k <;> rfl
  | case3 => cases h

theorem usedOpps_sub {stripped : Text} {opps os : List Nat} (h : usedOpps stripped opps = some os) :
    os.Sublist opps ∧ ∀ o ∈ os, o < blen stripped := by
  obtain rfl := (filterOpps_spec stripped _ os h).1
  exact ⟨List.filter_sublist.trans List.filter_sublist,
    fun o ho => by simpa using (List.mem_filter.mp (List.mem_filter.mp ho).1).2⟩

theorem filterOpps_total (stripped : Text) (l : List Nat)
    (h : ∀ o ∈ l, ∃ a b, stripped = a ++ b ∧ blen a = o) : ∃ os, filterOpps stripped l = some os := by
  fun_induction filterOpps stripped l with
  | case1 => exact ⟨_, rfl⟩
  | case2 => exact ⟨_, rfl⟩
  | case3 o l hno ih =>
    obtain ⟨a, b, rfl, rfl⟩ := h _ List.mem_cons_self
    obtain ⟨r, hr⟩ := ih fun x hx => h x (List.mem_cons_of_mem _ hx)
    exact (hno _ r (keepOpp_append a b) hr).elim

/-! ### the loop: the cuts it makes -/

section
variable (s : Ansi) (st : Nat) (cur : Text) (opps : List Nat)

/-- in state `(s, st, opps)` the loop cuts in front of the character it reads -/
abbrev UniCut : Prop := s = .normal ∧ opps.head? = some st

/-- one step of the loop, the `match` on state and opportunities read as one condition -/
theorem uniGo_cons (c : Char) (rest : Text) :
    uniGo s st cur opps (c :: rest) =
      if UniCut s st opps then
        cur :: uniGo (s.step c).1 (if (s.step c).2 then st + c.utf8Size else st) [c] opps.tail rest
      else uniGo (s.step c).1 (if (s.step c).2 then st + c.utf8Size else st) (cur ++ [c]) opps rest := by
  unfold UniCut
  cases s with
  | normal =>
    cases opps with
    | nil => simp [uniGo]
    | cons o os =>
      by_cases h : st = o
      · subst h; simp [uniGo]
      · have h' : ¬ o = st := fun e => h e.symm
        simp [uniGo, h, h']
  | _ => simp [uniGo]

theorem uniGo_flatten (rest : Text) :
    (uniGo s st cur opps rest).flatten = cur ++ rest := by
  induction rest generalizing s st cur opps with
  | nil => simp only [uniGo]; split <;> simp_all
  | cons c cs ih =>
    rw [uniGo_cons]
    by_cases hcut : UniCut s st opps
    · rw [if_pos hcut, List.flatten_cons, ih]; rfl
    · rw [if_neg hcut, ih, List.append_assoc]; rfl

theorem uniGo_head (rest : Text)
    (h : cur ≠ [] ∨ rest ≠ []) : ∃ x r, uniGo s st cur opps rest = (cur ++ x) :: r := by
  induction rest generalizing s st cur opps with
  | nil =>
    rcases h with h | h
    · exact ⟨[], [], by simp [uniGo, h]⟩
    · exact absurd rfl h
  | cons c cs ih =>
    rw [uniGo_cons]
    by_cases hcut : UniCut s st opps
    · exact ⟨[], _, by rw [if_pos hcut, List.append_nil]⟩
    · obtain ⟨x, r, hx⟩ := ih _ _ (cur ++ [c]) _ (Or.inl (by simp))
      exact ⟨c :: x, r, by rw [if_neg hcut, hx, List.append_assoc]; rfl⟩

/-- how the pieces before a cut arise: by steps that make no cut (`skip`), then the cut that closes
    `cur`, which is the last of them, the next piece beginning with the character `c` read at the cut
    (`last`), or is followed by the pieces the loop goes on to make, starting from `[c]` (`more`) -/
theorem uniGo_cuts_induction {M : Ansi → Nat → Text → List Nat → List Text → Text → Prop}
    (skip : ∀ s st cur opps c pre p, ¬ UniCut s st opps →
      M (s.step c).1 (if (s.step c).2 then st + c.utf8Size else st) (cur ++ [c]) opps pre p → M s st cur opps pre p)
    (last : ∀ st cur os c x, M .normal st cur (st :: os) [cur] (c :: x))
    (more : ∀ st cur os c pre p, pre ≠ [] →
      M (Ansi.normal.step c).1 (if (Ansi.normal.step c).2 then st + c.utf8Size else st) [c] os pre p →
      M .normal st cur (st :: os) (cur :: pre) p)
    (s : Ansi) (st : Nat) (cur : Text) (opps : List Nat) (rest : Text) (pre : List Text) (p : Text)
    (post : List Text) : uniGo s st cur opps rest = pre ++ p :: post → pre ≠ [] → M s st cur opps pre p := by
  induction rest generalizing s st cur opps pre with
  | nil =>
    intro h hpre
    simp only [uniGo] at h
    split at h
    · simp at h
    · obtain ⟨a, b, rfl⟩ := List.exists_cons_of_ne_nil hpre
      simp at h
  | cons c cs ih =>
    intro h hpre
    rw [uniGo_cons] at h
    by_cases hcut : UniCut s st opps
    · rw [if_pos hcut] at h
      obtain ⟨rfl, ho⟩ := hcut
      obtain ⟨os, rfl⟩ := List.head?_eq_some_iff.mp ho
      obtain ⟨a, pre', rfl⟩ := List.exists_cons_of_ne_nil hpre
      simp only [List.cons_append, List.cons.injEq, List.tail_cons] at h
      obtain ⟨rfl, h⟩ := h
      by_cases hp' : pre' = []
      · subst hp'
        obtain ⟨x, r, hx⟩ := uniGo_head (Ansi.normal.step c).1
          (if (Ansi.normal.step c).2 then st + c.utf8Size else st) [c] os cs (Or.inl (by simp))
        obtain ⟨rfl, -⟩ := List.cons.inj (hx.symm.trans h)
        exact last st cur os c x
      · exact more st cur os c pre' p hp' (ih _ _ _ _ pre' h hp')
    · rw [if_neg hcut] at h
      exact skip s st cur opps c pre p hcut (ih _ _ _ _ pre h hpre)

theorem uniGo_offset (c : Char) (a : Text) :
    (if (s.step c).2 then st + c.utf8Size else st) + blen (stripFrom (s.step c).1 a) =
      st + blen (stripFrom s (c :: a)) := by
  rw [stripFrom_cons]
  cases (s.step c).2 <;> simp [Nat.add_assoc]

/-- `a`: the text read from the loop state `(s, st, cur)` up to the cut -/
theorem uniGo_cuts_sound : ∀ (s : Ansi) (st : Nat) (cur : Text) (opps : List Nat) (rest : Text) (pre : List Text)
    (p : Text) (post : List Text), uniGo s st cur opps rest = pre ++ p :: post → pre ≠ [] →
      ∃ a, pre.flatten = cur ++ a ∧ s.run a = .normal ∧
        opps[pre.length - 1]? = some (st + blen (stripFrom s a)) ∧ ∃ c x, p = c :: x := by
  refine uniGo_cuts_induction ?skip ?last ?more
  case skip =>
    rintro s st cur opps c pre p _ ⟨a, h1, h2, h3, h4⟩
    exact ⟨c :: a, by simpa using h1, h2, by rw [h3, uniGo_offset], h4⟩
  case last =>
    intro st cur os c x
    exact ⟨[], by simp, rfl, by simp, c, x, rfl⟩
  case more =>
    rintro st cur os c pre p hpre ⟨a, h1, h2, h3, h4⟩
    obtain ⟨k, hk⟩ := Nat.exists_eq_add_one.mpr (List.length_pos_iff.mpr hpre)
    refine ⟨c :: a, by simp [h1], h2, ?_, h4⟩
    rw [hk, Nat.add_sub_cancel] at h3
    rw [List.length_cons, hk, Nat.add_sub_cancel, List.getElem?_cons_succ, h3, uniGo_offset]

/-- `o` is the stripped offset of a visible character still ahead in `rest` -/
def Ahead (s : Ansi) (st : Nat) (rest : Text) (o : Nat) : Prop :=
  ∃ p d q, stripFrom s rest = p ++ d :: q ∧ st + blen p = o

theorem Ahead.ge {s : Ansi} {st : Nat} {rest : Text} {o : Nat} (h : Ahead s st rest o) : st ≤ o := by
  obtain ⟨p, _, _, _, h2⟩ := h; omega

theorem Ahead.shift {s : Ansi} {st : Nat} {c : Char} {cs : Text} {o : Nat}
    (h : Ahead s st (c :: cs) o) (hne : ¬ (s = .normal ∧ st = o)) :
    Ahead (s.step c).1 (if (s.step c).2 then st + c.utf8Size else st) cs o := by
  obtain ⟨p, d, q, h1, h2⟩ := h
  rw [stripFrom_cons] at h1
  rcases step_cases s c with ⟨hs, -, hst⟩ | hv
  · simp only [hst, if_true, List.singleton_append] at h1 ⊢
    cases p with
    | nil => exact absurd ⟨hs, h2⟩ hne
    | cons x p' =>
      obtain ⟨rfl, h1'⟩ := List.cons.inj h1
      exact ⟨p', d, q, h1', by rw [← h2, blen_cons, Nat.add_assoc]⟩
  · simp only [hv, Bool.false_eq_true, if_false, List.nil_append] at h1 ⊢
    exact ⟨p, d, q, h1, h2⟩

theorem uniGo_cuts_complete (rest : Text)
    (hinc : opps.Pairwise (· < ·)) (hr : ∀ o ∈ opps, Ahead s st rest o) (hne : cur ≠ [] ∨ rest ≠ []) :
    (uniGo s st cur opps rest).length = opps.length + 1 := by
  induction rest generalizing s st cur opps with
  | nil =>
    cases opps with
    | nil =>
      have h : cur ≠ [] := hne.resolve_right (· rfl)
      simp [uniGo, h]
    | cons o os =>
      obtain ⟨_, _, _, h1, _⟩ := hr o List.mem_cons_self
      simp at h1
  | cons c cs ih =>
    rw [uniGo_cons]
    by_cases hcut : UniCut s st opps
    · -- the other opportunities are larger than the one cut at, so they are still ahead
      obtain ⟨os, rfl⟩ := List.head?_eq_some_iff.mp hcut.2
      obtain ⟨hmin, hinc'⟩ := List.pairwise_cons.mp hinc
      rw [if_pos hcut, List.length_cons, List.tail_cons, ih _ _ [c] os hinc' ?_ (Or.inl (by simp)), List.length_cons]
      exact fun o' ho' => (hr o' (List.mem_cons_of_mem _ ho')).shift fun h => Nat.lt_irrefl _ (h.2 ▸ hmin o' ho')
    · -- no cut now: the offset is not the first opportunity, and the others are larger than that
      rw [if_neg hcut]
      refine ih _ _ (cur ++ [c]) opps hinc (fun o' ho' => (hr o' ho').shift ?_) (Or.inl (by simp))
      rintro ⟨hs, rfl⟩
      obtain ⟨o, os, rfl⟩ := List.exists_cons_of_ne_nil (List.ne_nil_of_mem ho')
      rcases List.mem_cons.mp ho' with rfl | h3
      · exact hcut ⟨hs, rfl⟩
      · exact Nat.lt_irrefl _ (Nat.lt_of_le_of_lt (hr o (by simp)).ge ((List.pairwise_cons.mp hinc).1 _ h3))

/-! ### no opportunity before a space (UAX #14 rule LB7)

One clause of the contract of the external break-opportunity routine. Under it every piece of the
Unicode separator but the first begins with a non-space character. -/

/-- contract clause on the opportunities (byte offsets into the stripped text): the character at
    an opportunity is never a space -/
def OppsNoSpace (stripped : Text) (os : List Nat) : Prop :=
  ∀ a c b, stripped = a ++ c :: b → blen a ∈ os → c ≠ SP

/-- every piece of the Unicode separator loop after the first begins with a non-space character -/
theorem uniGo_heads (s : Ansi) (st : Nat) (cur : Text) (opps : List Nat) (rest : Text)
    (H : ∀ a c b, stripFrom s rest = a ++ c :: b → (st + blen a) ∈ opps → c ≠ SP) :
    ∀ p ∈ (uniGo s st cur opps rest).tail, ∃ c cs, p = c :: cs ∧ c ≠ SP := by
  intro p hp
  cases hfr : uniGo s st cur opps rest with
  | nil => rw [hfr] at hp; cases hp
  | cons f r =>
    rw [hfr] at hp
    obtain ⟨r1, r2, rfl⟩ := List.append_of_mem hp
    obtain ⟨a, h1, h2, h3, c, x, rfl⟩ := uniGo_cuts_sound s st cur opps rest (f :: r1) _ r2 hfr (by simp)
    refine ⟨c, x, rfl, ?_⟩
    -- `rest` is `a`, then `c`: if `c` is visible, it stands at the stripped offset of the cut, an opportunity
    have hflat := uniGo_flatten s st cur opps rest
    rw [hfr, ← List.cons_append, List.flatten_append, h1, List.flatten_cons, List.append_assoc,
      List.append_cancel_left_eq] at hflat
    by_cases hE : c = ESC
    · rw [hE]; decide
    · refine H (stripFrom s a) c (stripFrom (Ansi.normal.step c).1 (x ++ r2.flatten)) ?_ (List.mem_of_getElem? h3)
      rw [← hflat, stripFrom_append, h2, List.cons_append, stripFrom_cons, step_normal hE]
      rfl

end

/-! ### first entry

"First entry": the Unicode separator places a word boundary directly after a visible
character — escape sequences standing between that character and the next visible one go to
the following word (`Iterator::find` returns the first index-map entry with the wanted
stripped offset, and the ESC that begins a sequence has an entry). -/

/-- the last character of `t`, scanned from state `s0`, is visible -/
def LastVis (s0 : Ansi) (t : Text) : Prop :=
  ∃ t' d, t = t' ++ [d] ∧ ((s0.run t').step d).2 = true

theorem LastVis.run_normal {s0 : Ansi} {t : Text} (h : LastVis s0 t) : s0.run t = .normal := by
  obtain ⟨t', d, rfl, hv⟩ := h
  obtain ⟨hs, hd⟩ := (step_visible_iff _ _).mp hv
  rw [run_snoc, hs, step_normal hd]

theorem LastVis.prepend {s0 : Ansi} (a : Text) {t : Text} (h : LastVis (s0.run a) t) : LastVis s0 (a ++ t) := by
  obtain ⟨t', d, rfl, hv⟩ := h
  exact ⟨a ++ t', d, by simp, by rw [run_append]; exact hv⟩

theorem LastVis.strip_lt {s0 : Ansi} {a b : Text} (hb : LastVis s0 b) (hab : a <+: b) (hne : a ≠ b) :
    blen (stripFrom s0 a) < blen (stripFrom s0 b) := by
  obtain ⟨t, d, rfl, hv⟩ := hb
  obtain ⟨x, rfl⟩ := (List.prefix_concat_iff.mp hab).resolve_left hne
  have := d.utf8Size_pos
  simp only [stripFrom_append, stripFrom, hv, if_true, blen_append, blen_cons, blen_nil]
  omega

theorem LastVis.unique {s0 : Ansi} {line a b : Text} (ha : a <+: line) (hb : b <+: line)
    (hva : LastVis s0 a) (hvb : LastVis s0 b) (hlen : blen (stripFrom s0 a) = blen (stripFrom s0 b)) :
    a = b := by
  apply Classical.byContradiction
  intro hne
  rcases List.prefix_or_prefix_of_prefix ha hb with h | h
  · exact absurd hlen (Nat.ne_of_lt (hvb.strip_lt h hne))
  · exact absurd hlen.symm (Nat.ne_of_lt (hva.strip_lt h (Ne.symm hne)))

/-- (the invariant: if the stripped offset is the next opportunity, the last character read was visible) -/
theorem uniGo_first_entry : ∀ (s : Ansi) (st : Nat) (cur : Text) (opps : List Nat) (rest : Text) (pre : List Text)
    (p : Text) (post : List Text), uniGo s st cur opps rest = pre ++ p :: post → pre ≠ [] →
      ∀ s0, s = s0.run cur → opps.Pairwise (· < ·) → (opps.head? = some st → LastVis s0 cur) →
        LastVis s0 pre.flatten := by
  refine uniGo_cuts_induction ?skip ?last ?more
  case skip =>
    intro s st cur opps c pre _ hno ih s0 hs hinc J
    refine ih s0 (by rw [run_snoc, ← hs]) hinc fun ho => ?_
    by_cases hv : (s.step c).2 = true
    · exact ⟨cur, c, rfl, by rw [← hs]; exact hv⟩
    · -- an invisible `c` leaves the offset where it was, and there the loop would have cut
      simp only [hv, Bool.false_eq_true, if_false] at ho
      exact absurd ⟨by rw [hs]; exact (J ho).run_normal, ho⟩ hno
  case last =>
    intro st cur os _ _ s0 _ _ J
    simpa using J rfl
  case more =>
    intro st cur os c pre _ _ ih s0 hs hinc J
    rw [List.flatten_cons]
    apply LastVis.prepend
    rw [← hs]
    refine ih .normal (by simp) (List.pairwise_cons.mp hinc).2 fun ho => ?_
    by_cases hv : (Ansi.normal.step c).2 = true
    · exact ⟨[], c, rfl, by simpa using hv⟩
    · -- the next opportunity is larger than `st`, where an invisible `c` leaves the offset
      simp only [hv, Bool.false_eq_true, if_false] at ho
      exact absurd ((List.pairwise_cons.mp hinc).1 st (List.mem_of_mem_head? ho)) (Nat.lt_irrefl st)

/-! ### `find_words` itself: the loop from its initial state -/

@[simp] theorem findWords_ascii (env : Env) (line : Text) :
    findWords env .ascii line = some (findWordsAscii env.cw line) := rfl
@[simp] theorem findWords_unicode (env : Env) (line : Text) :
    findWords env .unicode line = findWordsUnicode env line := rfl

theorem findWordsUnicode_some {env : Env} {line : Text} {ws : List Word}
    (h : findWordsUnicode env line = some ws) :
    ∃ os, usedOpps (stripAnsi line) (env.opps (stripAnsi line)) = some os ∧
      ws = (uniGo .normal 0 [] os line).map (Word.from env.cw) := by
  unfold findWordsUnicode at h
  simp only at h
  split at h
  · next os hos => exact ⟨os, hos, (Option.some.inj h).symm⟩
  · cases h

/-- the Unicode separator fails only if an opportunity is not a char boundary of the stripped text -/
theorem findWordsUnicode_total (env : Env) (line : Text)
    (hb : ∀ o ∈ env.opps (stripAnsi line), o < blen (stripAnsi line) →
      ∃ l r, stripAnsi line = l ++ r ∧ blen l = o) :
    ∃ ws, findWordsUnicode env line = some ws := by
  unfold findWordsUnicode usedOpps
  obtain ⟨os, hos⟩ := filterOpps_total (stripAnsi line)
    ((env.opps (stripAnsi line)).filter (· < blen (stripAnsi line))) (by
    intro o ho
    obtain ⟨h1, h2⟩ := List.mem_filter.mp ho
    exact hb o h1 (by simpa using h2))
  simp only [hos]
  exact ⟨_, rfl⟩

theorem uniGo_flatten0 (os : List Nat) (line : Text) : (uniGo .normal 0 [] os line).flatten = line :=
  uniGo_flatten .normal 0 [] os line

theorem uniGo_cuts_sound0 (os : List Nat) (line : Text) (pre : List Text) (p : Text) (post : List Text)
    (h : uniGo .normal 0 [] os line = pre ++ p :: post) (hpre : pre ≠ []) :
    Ansi.run .normal pre.flatten = .normal ∧ os[pre.length - 1]? = some (blen (stripAnsi pre.flatten)) := by
  obtain ⟨a, h1, h2, h3, _⟩ := uniGo_cuts_sound .normal 0 [] os line pre p post h hpre
  rw [List.nil_append] at h1
  rw [h1]
  exact ⟨h2, by simpa [stripAnsi] using h3⟩

theorem uniGo_heads0 (os : List Nat) (line : Text) (H : OppsNoSpace (stripAnsi line) os) :
    ∀ p ∈ (uniGo .normal 0 [] os line).tail, ∃ c cs, p = c :: cs ∧ c ≠ SP :=
  uniGo_heads .normal 0 [] os line fun a c b ha hm => H a c b ha (by simpa using hm)

theorem uniGo_first_entry0 (os : List Nat) (line : Text) (hinc : os.Pairwise (· < ·)) (hpos : ∀ o ∈ os, 0 < o)
    (pre : List Text) (p : Text) (post : List Text) (h : uniGo .normal 0 [] os line = pre ++ p :: post)
    (hpre : pre ≠ []) : LastVis .normal pre.flatten :=
  uniGo_first_entry .normal 0 [] os line pre p post h hpre .normal rfl hinc
    fun ho => absurd (hpos 0 (List.mem_of_mem_head? ho)) (Nat.lt_irrefl 0)

end TW
