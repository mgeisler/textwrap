/-
  What the fragments of the pipeline are like with a built-in splitter: they spell the line (and in
  H-norm their cached widths add up to its display width), none carries a penalty (the
  hyphen splitter cuts behind a `'-'`, force-breaking copies the word's penalty), the pipeline
  fails only if the Unicode separator does, and with the ASCII separator every fragment is
  unbreakable (no space, no split point of its own). Last, what `break_words` leaves.
-/
import Lemmas.Width
import Lemmas.Refines
namespace TW

variable {env : Env} {o : Opts} {line : Text} {sw : Nat} {frs : List Word}

theorem pipeline_contig_builtin (hb : Builtin o.splitter) (h : pipeline env o line sw = some frs) :
    wordsText frs = line ∧ ∀ w ∈ frs, FragOk env.cw w :=
  pipeline_contig env o (builtin_inRange hb) line sw frs h

theorem fragSum_of_hnorm (hsp : env.cw SP = 1) (hb : Builtin o.splitter)
    (hpipe : pipeline env o line sw = some frs) (hn : HNorm frs) : fragSum frs = displayWidth env.cw line := by
  obtain ⟨c1, c2⟩ := pipeline_contig_builtin hb hpipe
  rw [← hnorm_additive hsp ((hnorm_iff frs).mp hn) fun w hw => (c2 w hw).2, c1]

/-! ### no inserted penalties -/

theorem findWords_noPen {sep : Sep} {ws : List Word}
    (h : findWords env sep line = some ws) : NoPen ws := by
  obtain ⟨ps, _, rfl⟩ := findWords_eq_map h
  intro w hw
  obtain ⟨t, _, rfl⟩ := List.mem_map.mp hw
  rfl

theorem splitWords_noPen {sp : Splitter} (hb : Builtin sp) {ws sw : List Word}
    (hws : NoPen ws) (h : splitWords env sp ws = some sw) : NoPen sw :=
  splitWords_forall h fun w hw _ hps p hp => by
    obtain ⟨_, _, _, _, _, ⟨_, _, hpen⟩ | ⟨_, _, hpen⟩⟩ := splitOne_builtin_mem hb hps p hp
    · exact hpen
    · rw [hpen]; exact hws w hw

theorem breakWords_noPen (cw : Char → Nat) (limit : Nat) {ws : List Word} (hws : NoPen ws) :
    NoPen (breakWords cw limit ws) := by
  intro f hf
  obtain ⟨w, hw, ⟨_, h⟩ | ⟨rfl, _⟩⟩ := mem_breakWords f hf
  · rcases (breakOK_mem (breakApart_ok cw limit w) f h).2.2.2.2 with h | h
    · exact h
    · rw [h]; exact hws w hw
  · exact hws f hw

theorem pipeline_noPen (hb : Builtin o.splitter) (h : pipeline env o line sw = some frs) : NoPen frs :=
  pipeline_ind (P := NoPen) h
    (fun _ _ hfw hs => splitWords_noPen hb (findWords_noPen hfw) hs)
    (fun _ _ hws => breakWords_noPen env.cw sw hws)
    (fun _ hws => List.forall_mem_cons.mpr ⟨rfl, hws⟩)

theorem splitWords_total (env : Env) (sp : Splitter) (hb : Builtin sp) (ws : List Word) :
    ∃ sw, splitWords env sp ws = some sw := by
  induction ws with
  | nil => exact ⟨[], rfl⟩
  | cons w rest ih =>
    obtain ⟨a, ha⟩ : ∃ a, splitOne env.cw w (sp.points env.isAlnum w.word) 0 = some a := by
      rcases builtin_cases hb with rfl | rfl
      · exact ⟨_, splitOne_nil env.cw w⟩
      · exact splitOne_hyphen_total env.cw env.isAlnum w
    obtain ⟨b, hb'⟩ := ih
    exact ⟨a ++ b, splitWords_cons_eq_some.mpr ⟨a, b, ha, hb', rfl⟩⟩

/-- `hu`: every opportunity below the end is a char boundary of the stripped line, so that
    `&stripped[..idx]` in `find_words_unicode_break_properties` does not panic -/
theorem pipeline_total (env : Env) (o : Opts) (hb : Builtin o.splitter) (line : Text) (sw : Nat)
    (hu : o.sep = .unicode → ∀ o' ∈ env.opps (stripAnsi line), o' < blen (stripAnsi line) →
      ∃ l r, stripAnsi line = l ++ r ∧ blen l = o') :
    ∃ frs, pipeline env o line sw = some frs := by
  obtain ⟨ws, hws⟩ : ∃ ws, findWords env o.sep line = some ws := by
    cases hsep : o.sep with
    | ascii => exact ⟨_, rfl⟩
    | unicode => exact findWordsUnicode_total env line (hu hsep)
  obtain ⟨sws, hs⟩ := splitWords_total env o.splitter hb ws
  exact ⟨_, pipeline_of_stages sw hws hs⟩

/-! ### unbreakable fragments -/

theorem splitWords_pieces {sp : Splitter} (hb : Builtin sp) {ws sw : List Word}
    (h : splitWords env sp ws = some sw) :
    ∀ s ∈ sw, (∃ w ∈ ws, ∃ A B, w.word = A ++ s.word ++ B) ∧ sp.points env.isAlnum s.word = [] :=
  splitWords_forall h fun w hw ps hps s hs => by
    obtain ⟨A, B, e, _⟩ := splitOK_mem (splitOne_builtin hb hps).1 s hs
    refine ⟨⟨w, hw, A, B, e⟩, ?_⟩
    rcases builtin_cases hb with rfl | rfl
    · rfl
    · exact splitOne_pointFree env.cw env.isAlnum w ps hps s hs

/-- unbreakable in the sense of C02: no space (no break opportunity of the ASCII separator) and no
    split point of the splitter -/
theorem pipeline_unbreakable_ascii (hsep : o.sep = .ascii) (hb : Builtin o.splitter)
    (h : pipeline env o line sw = some frs) :
    ∀ f ∈ frs, SP ∉ f.word ∧ o.splitter.points env.isAlnum f.word = [] := by
  refine pipeline_ind (P := fun frs => ∀ f ∈ frs, SP ∉ f.word ∧ o.splitter.points env.isAlnum f.word = [])
    h ?_ ?_ ?_
  · intro fw sws hfw hs f hf
    rw [hsep] at hfw
    simp only [findWords_ascii, Option.some.injEq] at hfw; subst hfw
    obtain ⟨⟨w, hw, A, B, e⟩, hpts⟩ := splitWords_pieces hb hs f hf
    exact ⟨fun hm => findWordsAscii_noSP env.cw line w hw (by rw [e]; simp [hm]), hpts⟩
  · intro _ ws hws f hf
    obtain ⟨w, hw, h | h⟩ := mem_breakWords f hf
    · obtain ⟨A, B, e⟩ := breakApart_part env.cw sw w f h.2
      obtain ⟨h1, h2⟩ := hws w hw
      exact ⟨fun hm => h1 (by rw [e]; simp [hm]),
        builtin_points_part env.isAlnum _ hb A f.word B (by rw [← e]; exact h2)⟩
    · rw [h.1]; exact hws w hw
  · exact fun _ hws => List.forall_mem_cons.mpr
      ⟨⟨by simp, (builtin_points env.isAlnum hb _).elim id fun e => e.trans rfl⟩, hws⟩

/-! ### `break_words` on -/

/-- the fragments are those of `breakWords` (`breakWords_bound`, `mem_breakWords`), behind the empty
    word that stands for a non-empty initial indent (wrap.rs:245) -/
theorem pipeline_of_breakWords (hbw : o.breakWords = true) (h : pipeline env o line sw = some frs) :
    ∃ sws, frs = if o.initialIndent.isEmpty then breakWords env.cw sw sws
      else Word.from env.cw [] :: breakWords env.cw sw sws := by
  obtain ⟨_, sws, _, _, rfl⟩ := pipeline_stages h
  exact ⟨sws, if_pos hbw⟩
end TW
