/-
  The `while` loop of `online_column_minima` on any matrix that answers: no monotonicity, any
  number type. `ocmStep` is opened once, in `ocmStep_total`: an iteration ends in one of the four
  ways of the relation `OcmStep`, and every fact about the loop is an instance of
  `onlineColumnMinima_inv`: a predicate that every `OcmStep` keeps holds of the vector returned.
-/
import Lemmas.Smawk
namespace TW

section
variable {α : Type} [CostNum α]

variable (m : Nat → Nat → Option α)

def VecShape (res : List (Nat × α)) : Prop := ∀ j, 1 ≤ j → ∀ e, res[j]? = some e → e.1 < j

/-- the closure answers on every call `online_column_minima` can make (`ocmM_eq`) -/
def MOk (M : List (Nat × α) → Nat → Nat → Option α) (size : Nat) : Prop :=
  ∀ pre i j, VecShape pre → i < pre.length → i < j → j < size → (M pre i j).isSome

omit [CostNum α] in
theorem VecShape.take {res : List (Nat × α)} (h : VecShape res) (k : Nat) : VecShape (res.take k) := by
  intro j hj e he
  rw [List.getElem?_take] at he
  by_cases hjk : j < k
  · rw [if_pos hjk] at he
    exact h j hj e he
  · rw [if_neg hjk] at he
    cases he

/-- between iterations, for any matrix: what keeps every index of an iteration in range -/
structure OcmInv (size : Nat) (s : Ocm α) : Prop where
  fin_lt : s.finished < s.result.length
  ten_lt : s.tentative < s.result.length
  len_le : s.result.length ≤ size
  base_le : s.base ≤ s.finished
  shape : VecShape s.result
  first : ∃ v, s.result[0]? = some (0, v)

section
variable {M : List (Nat × α) → Nat → Nat → Option α} {size : Nat} {s : Ocm α}

omit [CostNum α] in
theorem ocmM_eq (M : List (Nat × α) → Nat → Nat → Option α)
    (inv : OcmInv size s) {i j : Nat} (hi : i ≤ s.finished) (hij : i < j) (hj : j < size) :
    ∃ pre, ocmM M size s i j = M pre i j ∧ VecShape pre ∧ i < pre.length ∧ pre[i]? = s.result[i]? := by
  refine ⟨s.result.take (s.finished + 1), ?_, inv.shape.take _,
    by rw [List.length_take]; exact Nat.lt_min.mpr ⟨Nat.lt_succ_of_le hi, Nat.lt_of_le_of_lt hi inv.fin_lt⟩,
    by rw [List.getElem?_take, if_pos (Nat.lt_succ_of_le hi)]⟩
  rw [ocmM, if_pos ⟨hij, Nat.lt_trans hij hj, hj⟩, if_pos (Nat.succ_le_of_lt inv.fin_lt)]

omit [CostNum α] in
theorem ocmM_some (hM : MOk M size)
    (inv : OcmInv size s) {i j : Nat} (hi : i ≤ s.finished) (hij : i < j) (hj : j < size) :
    (ocmM M size s i j).isSome := by
  obtain ⟨pre, e, h1, h2, _⟩ := ocmM_eq M inv hi hij hj
  exact e ▸ hM pre i j h1 h2 hij hj

/-- the store loop offered `(row, v)` to a position: taken over no entry or a strictly larger
    value (`v < result[col].1`), else the old entry is kept -/
inductive Offered (old new : Option (Nat × α)) (row : Nat) (v : α) : Prop
  | taken : new = some (row, v) → (∀ o, old = some o → v < o.2) → Offered old new row v
  | kept {o : Nat × α} : old = some o → new = some o → ¬ v < o.2 → Offered old new row v

theorem ocmStore_cons (mn : List Nat) (a : Nat) (cs : List Nat)
    (res : List (Nat × α)) (ha : a ≤ res.length) (hl : a < mn.length) {v : α}
    (hv : m (mn.getD a 0) a = some v) :
    ∃ res1, ocmStore m mn (a :: cs) res = ocmStore m mn cs res1 ∧
      res1.length = max res.length (a + 1) ∧ (∀ j, j ≠ a → res1[j]? = res[j]?) ∧
      Offered res[a]? res1[a]? (mn.getD a 0) v := by
  rw [ocmStore, getElem?_eq_some_getD hl 0]
  dsimp only
  rw [hv]
  dsimp only
  by_cases hlen : res.length ≤ a
  · obtain rfl : res.length = a := Nat.le_antisymm hlen ha
    have hnone : res[res.length]? = none := List.getElem?_eq_none (Nat.le_refl _)
    refine ⟨res ++ [(mn.getD res.length 0, v)], if_pos hlen,
      by rw [List.length_append, List.length_singleton, Nat.max_eq_right (Nat.le_succ _)], fun j hj => ?_,
      .taken List.getElem?_concat_length fun old ho => nomatch hnone.symm.trans ho⟩
    rcases Nat.lt_or_gt_of_ne hj with h | h
    · exact List.getElem?_append_left h
    · rw [List.getElem?_eq_none (by rw [List.length_append]; exact h),
        List.getElem?_eq_none (Nat.le_of_lt h)]
  · have hlt : a < res.length := Nat.lt_of_not_le hlen
    obtain ⟨old, ho⟩ : ∃ old, res[a]? = some old := ⟨_, List.getElem?_eq_getElem hlt⟩
    rw [if_neg hlen, ho]
    dsimp only
    by_cases hv' : v < old.2
    · exact ⟨res.set a (mn.getD a 0, v), if_pos hv',
        by rw [List.length_set, Nat.max_eq_left hlt], fun j hj => List.getElem?_set_ne (Ne.symm hj),
        .taken (List.getElem?_set_self hlt) fun o ho' => Option.some.inj ho' ▸ hv'⟩
    · exact ⟨res, if_neg hv', (Nat.max_eq_left hlt).symm, fun _ _ => rfl, .kept rfl ho hv'⟩

theorem ocmStore_range' (mn : List Nat) :
    ∀ (k a : Nat) (res : List (Nat × α)), a ≤ res.length →
    (∀ c ∈ List.range' a k, c < mn.length ∧ (m (mn.getD c 0) c).isSome) →
    ∃ res', ocmStore m mn (List.range' a k) res = some res' ∧
      res'.length = max res.length (a + k) ∧
      (∀ j, j ∉ List.range' a k → res'[j]? = res[j]?) ∧
      (∀ j ∈ List.range' a k, ∃ v, m (mn.getD j 0) j = some v ∧
        Offered res[j]? res'[j]? (mn.getD j 0) v) := by
  intro k
  induction k with
  | zero =>
    exact fun a res ha _ =>
      ⟨res, rfl, (Nat.max_eq_left ha).symm, fun _ _ => rfl, fun _ h => absurd h List.not_mem_nil⟩
  | succ k ih =>
    intro a res ha hc
    rw [List.range'_succ] at hc ⊢
    obtain ⟨c1, c2⟩ := hc a List.mem_cons_self
    obtain ⟨v, hv⟩ := Option.isSome_iff_exists.mp c2
    obtain ⟨res1, e1, l1, s1, t1⟩ := ocmStore_cons m mn a (List.range' (a + 1) k) res ha c1 hv
    obtain ⟨res', e2, l2, s2, t2⟩ := ih (a + 1) res1 (by rw [l1]; exact Nat.le_max_right ..)
      fun c h => hc c (List.mem_cons_of_mem _ h)
    have ha' : a ∉ List.range' (a + 1) k := fun h => Nat.not_succ_le_self a (List.mem_range'_1.mp h).1
    refine ⟨res', by rw [e1, e2], ?_, fun j hj => ?_, fun j hj => ?_⟩
    · rw [l2, l1, Nat.max_assoc, Nat.max_eq_right (Nat.le_add_right ..), Nat.add_right_comm]
      rfl
    · rw [s2 j fun h => hj (List.mem_cons_of_mem _ h), s1 j fun h => hj (h ▸ List.mem_cons_self)]
    · rcases List.mem_cons.mp hj with rfl | h
      · rw [s2 j ha']
        exact ⟨v, hv, t1⟩
      · rw [← s1 j (Nat.ne_of_gt (List.mem_range'_1.mp h).1)]
        exact t2 j h

/-- the vector after the first case: `smawk_inner` chose the rows `mn`, the store loop offered them -/
structure FirstStored (M : List (Nat × α) → Nat → Nat → Option α) (size : Nat) (s : Ocm α)
    (tent : Nat) (mn : List Nat) (res : List (Nat × α)) : Prop where
  row : ∀ j, s.finished < j → j ≤ tent → mn.getD j 0 ≤ s.finished
  len : res.length = max s.result.length (tent + 1)
  out : ∀ j, ¬ (s.finished < j ∧ j ≤ tent) → res[j]? = s.result[j]?
  offer : ∀ j, s.finished < j → j ≤ tent → ∃ v, ocmM M size s (mn.getD j 0) j = some v ∧
    Offered s.result[j]? res[j]? (mn.getD j 0) v

/-- the four cases of `ocmStep`, each with what it read and what it left behind -/
inductive OcmStep (M : List (Nat × α) → Nat → Nat → Option α) (size : Nat) (s : Ocm α) : Ocm α → Prop
  | first {tent : Nat} {mn : List Nat} {res : List (Nat × α)} :
      s.tentative ≤ s.finished → s.finished < tent → tent < size →
      smawkInner (ocmM M size s) (List.range' s.base (s.finished + 1 - s.base))
        (List.range' (s.finished + 1) (tent + 1 - (s.finished + 1))) (List.replicate (tent + 1) 0) = some mn →
      FirstStored M size s tent mn res →
      OcmStep M size s ⟨res, s.finished + 1, s.base, tent⟩
  | second {diag : α} {ri : Nat × α} :
      s.finished < s.tentative →
      ocmM M size s s.finished (s.finished + 1) = some diag → s.result[s.finished + 1]? = some ri →
      diag < ri.2 →
      OcmStep M size s ⟨s.result.set (s.finished + 1) (s.finished, diag), s.finished + 1, s.finished,
        s.finished + 1⟩
  | third {diag v : α} {ri rt : Nat × α} :
      s.finished < s.tentative →
      ocmM M size s s.finished (s.finished + 1) = some diag → s.result[s.finished + 1]? = some ri →
      ¬ diag < ri.2 →
      ocmM M size s s.finished s.tentative = some v → s.result[s.tentative]? = some rt →
      CostNum.le rt.2 v = true →
      OcmStep M size s { s with finished := s.finished + 1 }
  | fourth {diag v : α} {ri rt : Nat × α} :
      s.finished < s.tentative →
      ocmM M size s s.finished (s.finished + 1) = some diag → s.result[s.finished + 1]? = some ri →
      ¬ diag < ri.2 →
      ocmM M size s s.finished s.tentative = some v → s.result[s.tentative]? = some rt →
      ¬ CostNum.le rt.2 v = true →
      OcmStep M size s
        { s with finished := s.finished + 1, base := s.finished, tentative := s.finished + 1 }

theorem ocmFirst_spec (hM : MOk M size)
    (inv : OcmInv size s) {tent : Nat} (ht1 : s.finished < tent) (ht2 : tent < size) :
    ∃ mn res,
      smawkInner (ocmM M size s) (List.range' s.base (s.finished + 1 - s.base))
        (List.range' (s.finished + 1) (tent + 1 - (s.finished + 1))) (List.replicate (tent + 1) 0) = some mn ∧
      ocmStore (ocmM M size s) mn (List.range' (s.finished + 1) (tent + 1 - (s.finished + 1))) s.result =
        some res ∧
      FirstStored M size s tent mn res := by
  obtain ⟨mn, a1, a2, hrow⟩ := smawkInner_interval (ocmM M size s) (a := s.base) (e := s.finished + 1)
    (b := s.finished + 1) (d := tent + 1) (minima := List.replicate (tent + 1) 0)
    (Nat.lt_succ_of_le inv.base_le) (Nat.le_of_eq List.length_replicate.symm)
    fun r _ hr c hc hd => ocmM_some hM inv (Nat.le_of_lt_succ hr) (Nat.lt_of_lt_of_le hr hc)
      (Nat.lt_of_lt_of_le hd ht2)
  obtain ⟨res, b1, b2, b3, b4⟩ := ocmStore_range' (ocmM M size s) mn (tent + 1 - (s.finished + 1))
    (s.finished + 1) s.result inv.fin_lt fun c hc =>
      have h := mem_range'_sub.mp hc
      ⟨by rw [a2, List.length_replicate]; exact h.2,
        ocmM_some hM inv (Nat.le_of_lt_succ (hrow c h.1 h.2)) (Nat.lt_of_lt_of_le (hrow c h.1 h.2) h.1)
          (Nat.lt_of_lt_of_le h.2 ht2)⟩
  rw [Nat.add_sub_cancel' (Nat.succ_le_succ (Nat.le_of_lt ht1))] at b2
  exact ⟨mn, res, a1, b1,
    fun j h1 h2 => Nat.le_of_lt_succ (hrow j h1 (Nat.lt_succ_of_le h2)),
    b2, fun j hj => b3 j fun h => hj ⟨(mem_range'_sub.mp h).1, Nat.le_of_lt_succ (mem_range'_sub.mp h).2⟩,
    fun j h1 h2 => b4 j (mem_range'_sub.mpr ⟨h1, Nat.lt_succ_of_le h2⟩)⟩

/-- the `min` is the new `tentative` of the first case -/
theorem ocmTent_bounds {f b size : Nat} (hb : b ≤ f) (hf : f < size - 1) :
    f < min (f + (f + 1 - b)) (size - 1) ∧ min (f + (f + 1 - b)) (size - 1) < size :=
  ⟨Nat.lt_min.mpr ⟨Nat.lt_add_of_pos_right (Nat.sub_pos_of_lt (Nat.lt_succ_of_le hb)), hf⟩,
    Nat.lt_of_le_of_lt (Nat.min_le_right _ _)
      (Nat.sub_one_lt fun h => by rw [h] at hf; exact Nat.not_lt_zero _ hf)⟩

theorem ocmStep_total (hM : MOk M size)
    (inv : OcmInv size s) (hfin : s.finished < size - 1) :
    ∃ s', ocmStep M size s = some s' ∧ OcmStep M size s s' := by
  have htl := inv.ten_lt
  have hll := inv.len_le
  unfold ocmStep
  dsimp only
  by_cases hc : s.tentative < s.finished + 1
  · rw [if_pos hc, range_drop, range_drop, List.length_range']
    obtain ⟨ht1, ht2⟩ := ocmTent_bounds inv.base_le hfin
    generalize min (s.finished + (s.finished + 1 - s.base)) (size - 1) = tent at ht1 ht2 ⊢
    obtain ⟨mn, res, a1, b1, h⟩ := ocmFirst_spec hM inv ht1 ht2
    rw [a1]
    dsimp only
    rw [b1]
    exact ⟨_, rfl, .first (Nat.le_of_lt_succ hc) ht1 ht2 a1 h⟩
  · have hc' : s.finished < s.tentative := Nat.le_of_not_lt hc
    obtain ⟨diag, hd⟩ := Option.isSome_iff_exists.mp
      (ocmM_some hM inv (Nat.le_refl s.finished) (Nat.lt_succ_self _) (Nat.add_lt_of_lt_sub hfin))
    obtain ⟨ri, hri⟩ : ∃ ri, s.result[s.finished + 1]? = some ri :=
      ⟨_, List.getElem?_eq_getElem (Nat.lt_of_le_of_lt hc' htl)⟩
    obtain ⟨rt, hrt⟩ : ∃ rt, s.result[s.tentative]? = some rt := ⟨_, List.getElem?_eq_getElem htl⟩
    obtain ⟨v, hv⟩ := Option.isSome_iff_exists.mp
      (ocmM_some hM inv (Nat.le_refl s.finished) hc' (Nat.lt_of_lt_of_le htl hll))
    rw [if_neg hc]
    simp only [Nat.add_sub_cancel, hd, hri, hv, hrt]
    by_cases h2 : diag < ri.2
    · rw [if_pos h2]
      exact ⟨_, rfl, .second hc' hd hri h2⟩
    · rw [if_neg h2]
      by_cases h3 : CostNum.le rt.2 v = true
      · rw [if_pos h3]
        exact ⟨_, rfl, .third hc' hd hri h2 hv hrt h3⟩
      · rw [if_neg h3]
        exact ⟨_, rfl, .fourth hc' hd hri h2 hv hrt h3⟩

theorem ocmStep_cases (hM : MOk M size)
    {s' : Ocm α} (inv : OcmInv size s) (hfin : s.finished < size - 1)
    (he : ocmStep M size s = some s') : OcmStep M size s s' := by
  obtain ⟨s1, e1, h1⟩ := ocmStep_total hM inv hfin
  obtain rfl : s1 = s' := Option.some.inj (e1.symm.trans he)
  exact h1

theorem OcmStep.prefix_stable {s' : Ocm α} (h : OcmStep M size s s') :
    ∀ j, j ≤ s.finished → s'.result[j]? = s.result[j]? := by
  intro j hj
  cases h with
  | first _ _ _ _ st => exact st.out j fun h => Nat.not_le_of_lt h.1 hj
  | second => exact List.getElem?_set_ne (Nat.ne_of_gt (Nat.lt_succ_of_le hj))
  | third => rfl
  | fourth => rfl

/-- all an iteration does to an entry: leave it, or, beyond `finished`, store a row at or below
    `finished` with the value the matrix gives for it -/
theorem OcmStep.entry {s' : Ocm α} (h : OcmStep M size s s') (inv : OcmInv size s) {j : Nat} {e : Nat × α}
    (he : s'.result[j]? = some e) :
    s.result[j]? = some e ∨
      (e.1 ≤ s.finished ∧ s.finished < j ∧ j < size ∧ ocmM M size s e.1 j = some e.2) := by
  cases h with
  | @first tent mn res _ _ ht2 _ st =>
    by_cases hjr : s.finished < j ∧ j ≤ tent
    · obtain ⟨v, hv, ⟨e1, _⟩ | ⟨e0, e1, _⟩⟩ := st.offer j hjr.1 hjr.2
      · obtain rfl := Option.some.inj (e1.symm.trans he)
        exact Or.inr ⟨st.row j hjr.1 hjr.2, hjr.1, Nat.lt_of_le_of_lt hjr.2 ht2, hv⟩
      · obtain rfl := Option.some.inj (e1.symm.trans he)
        exact Or.inl e0
    · exact Or.inl ((st.out j hjr).symm.trans he)
  | @second diag ri hc hd hri h2 =>
    by_cases hje : j = s.finished + 1
    · subst hje
      rw [List.getElem?_set_self (List.getElem?_eq_some_iff.mp hri).1] at he
      obtain rfl := Option.some.inj he
      exact Or.inr ⟨Nat.le_refl _, Nat.lt_succ_self _,
        Nat.lt_of_le_of_lt hc (Nat.lt_of_lt_of_le inv.ten_lt inv.len_le), hd⟩
    · exact Or.inl ((List.getElem?_set_ne (Ne.symm hje)).symm.trans he)
  | third => exact Or.inl he
  | fourth => exact Or.inl he

omit [CostNum α] in
theorem OcmInv.init (size : Nat) (hsz : 0 < size) (initial : α) :
    OcmInv size (⟨[(0, initial)], 0, 0, 0⟩ : Ocm α) :=
  ⟨Nat.zero_lt_one, Nat.zero_lt_one, hsz, Nat.le_refl _,
    fun _ hj _ he => (nomatch (List.getElem?_eq_none hj).symm.trans he),
    ⟨initial, rfl⟩⟩

theorem OcmStep.inv {s' : Ocm α}
    (h : OcmStep M size s s') (inv : OcmInv size s) :
    OcmInv size s' ∧ s'.finished = s.finished + 1 := by
  have shape : VecShape s'.result := fun j hj e he =>
    (h.entry inv he).elim (inv.shape j hj e) fun ⟨h1, h2, _, _⟩ => Nat.lt_of_le_of_lt h1 h2
  have first : ∃ v, s'.result[0]? = some (0, v) :=
    inv.first.imp fun v hv => (h.prefix_stable 0 (Nat.zero_le _)).trans hv
  cases h with
  | @first tent mn res _ ht1 ht2 _ st =>
    have hl : tent < res.length := by rw [st.len]; exact Nat.le_max_right ..
    exact ⟨⟨Nat.lt_of_le_of_lt ht1 hl, hl, by rw [st.len]; exact Nat.max_le.mpr ⟨inv.len_le, ht2⟩,
      Nat.le_succ_of_le inv.base_le, shape, first⟩, rfl⟩
  | @second diag _ hc hd hri h2 =>
    have hl : s.finished + 1 < (s.result.set (s.finished + 1) (s.finished, diag)).length := by
      rw [List.length_set]; exact Nat.lt_of_le_of_lt hc inv.ten_lt
    exact ⟨⟨hl, hl, by rw [List.length_set]; exact inv.len_le, Nat.le_succ _, shape, first⟩, rfl⟩
  | third hc =>
    exact ⟨⟨Nat.lt_of_le_of_lt hc inv.ten_lt, inv.ten_lt, inv.len_le, Nat.le_succ_of_le inv.base_le,
      shape, first⟩, rfl⟩
  | fourth hc =>
    have hri : s.finished + 1 < s.result.length := Nat.lt_of_le_of_lt hc inv.ten_lt
    exact ⟨⟨hri, hri, inv.len_le, Nat.le_succ _, shape, first⟩, rfl⟩

omit [CostNum α] in
theorem OcmInv.finished_eq (inv : OcmInv size s) (h : ¬ s.finished < size - 1) :
    s.finished = size - 1 ∧ s.result.length = size :=
  have h1 : size ≤ s.finished + 1 := Nat.le_succ_of_pred_le (Nat.le_of_not_lt h)
  ⟨Nat.le_antisymm (Nat.le_sub_one_of_lt (Nat.lt_of_lt_of_le inv.fin_lt inv.len_le)) (Nat.le_of_not_lt h),
    Nat.le_antisymm inv.len_le (Nat.le_trans h1 inv.fin_lt)⟩

theorem ocmLoop_inv (hM : MOk M size)
    (P : Ocm α → Prop)
    (hstep : ∀ s s', OcmInv size s → P s → s.finished < size - 1 → OcmStep M size s s' →
      OcmInv size s' → P s') :
    ∀ (fuel : Nat) (s : Ocm α), OcmInv size s → P s → size - 1 ≤ s.finished + fuel →
    ∃ s', ocmLoop M size fuel s = some s' ∧ OcmInv size s' ∧ P s' ∧ s'.finished = size - 1 ∧
      s'.result.length = size := by
  intro fuel
  induction fuel with
  | zero =>
    intro s inv hP h
    have h : ¬ s.finished < size - 1 := Nat.not_lt.mpr h
    exact ⟨s, by rw [ocmLoop, if_neg h], inv, hP, inv.finished_eq h⟩
  | succ fuel ih =>
    intro s inv hP h
    rw [ocmLoop]
    by_cases hlt : s.finished < size - 1
    · obtain ⟨s1, e1, h1⟩ := ocmStep_total hM inv hlt
      obtain ⟨inv1, f1⟩ := h1.inv inv
      rw [if_pos hlt, e1]
      exact ih s1 inv1 (hstep s s1 inv hP hlt h1 inv1) (by rw [f1, Nat.add_right_comm]; exact h)
    · exact ⟨s, by rw [if_neg hlt], inv, hP, inv.finished_eq hlt⟩

theorem onlineColumnMinima_inv
    (hM : MOk M size) (initial : α) (hsz : 0 < size) (P : Ocm α → Prop)
    (h0 : P ⟨[(0, initial)], 0, 0, 0⟩)
    (hstep : ∀ s s', OcmInv size s → P s → s.finished < size - 1 → OcmStep M size s s' →
      OcmInv size s' → P s') :
    ∃ s, onlineColumnMinima M initial size = some s.result ∧ OcmInv size s ∧ P s ∧
      s.finished = size - 1 ∧ s.result.length = size := by
  obtain ⟨s, e, h⟩ := ocmLoop_inv hM P hstep size _ (OcmInv.init size hsz initial) h0
    (Nat.le_trans (Nat.sub_le _ _) (Nat.le_add_left _ _))
  exact ⟨s, by rw [onlineColumnMinima, if_neg (Nat.ne_of_gt hsz), e]; rfl, h⟩

theorem OcmStep.forall {Q : Nat → α → Prop} {s' : Ocm α}
    (hQ : ∀ pre i j, VecShape pre → i < j → j < size → ∀ e v, pre[i]? = some e → Q i e.2 →
      M pre i j = some v → Q j v)
    (h : OcmStep M size s s') (inv : OcmInv size s) (hb : ∀ j e, s.result[j]? = some e → Q j e.2) :
    ∀ j e, s'.result[j]? = some e → Q j e.2 := by
  intro j e he
  rcases h.entry inv he with h | ⟨hr, hrj, hjs, hv⟩
  · exact hb j e h
  · have hrj := Nat.lt_of_le_of_lt hr hrj
    obtain ⟨pre, e', h1, _, h3⟩ := ocmM_eq M inv hr hrj hjs
    have hx := List.getElem?_eq_getElem (Nat.lt_of_le_of_lt hr inv.fin_lt)
    exact hQ pre e.1 j h1 hrj hjs _ e.2 (h3.trans hx) (hb e.1 _ hx) (e' ▸ hv)

theorem onlineColumnMinima_forall (hM : MOk M size) (initial : α) (hsz : 0 < size) {Q : Nat → α → Prop}
    (h0 : Q 0 initial)
    (hQ : ∀ pre i j, VecShape pre → i < j → j < size → ∀ e v, pre[i]? = some e → Q i e.2 →
      M pre i j = some v → Q j v) :
    ∃ res, onlineColumnMinima M initial size = some res ∧ res.length = size ∧
      ∀ j e, res[j]? = some e → Q j e.2 := by
  obtain ⟨s, e, _, hb, _, hlen⟩ := onlineColumnMinima_inv hM initial hsz
    (fun s => ∀ j e, s.result[j]? = some e → Q j e.2)
    (fun j e he => by
      obtain rfl : j = 0 := Nat.lt_one_iff.mp (List.getElem?_eq_some_iff.mp he).1
      obtain rfl := Option.some.inj he
      exact h0)
    fun s s' inv hb _ h _ => h.forall hQ inv hb
  exact ⟨s.result, e, hlen, hb⟩

end

theorem onlineColumnMinima_spec {M : List (Nat × α) → Nat → Nat → Option α} {size : Nat}
    (hM : MOk M size) (initial : α) (hsz : 0 < size) :
    ∃ res, onlineColumnMinima M initial size = some res ∧ res.length = size ∧ VecShape res ∧
      (∃ v, res[0]? = some (0, v)) := by
  obtain ⟨s, e, inv, _, _, hl⟩ := onlineColumnMinima_inv hM initial hsz (fun _ => True) trivial
    fun _ _ _ _ _ _ _ => trivial
  exact ⟨s.result, e, hl, inv.shape, inv.first⟩

end
end TW
