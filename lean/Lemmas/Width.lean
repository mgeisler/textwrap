/-
  Width reasoning. H-norm (`HNorm`: fragment boundaries in skipper state `normal`), a theorem for
  ESC-free text; under it the fragments' text and a group's slice are their stripped counterparts
  with complete sequences put in (`Vis`). The cached widths and whitespace of the fragments
  (`fragSum`) are at most the byte length and under H-norm add up to the display width. On
  word fragments over `Int` the accumulator of first-fit is `fragSum` (`lineAcc_fragOf`), and
  fragments that fit the first line stay on it (`wrapFirstFit_one_line`).
-/
import Lemmas.Reassemble
import Lemmas.FirstFit
import Lemmas.StripStages
namespace TW
open C13 (stripW)

/-- H-norm: scanning the fragments in order, every word begins and ends in skipper state
    `normal` and every whitespace part is spaces only -/
def HNorm : List Word → Prop
  | [] => True
  | w :: r => Ansi.run .normal w.word = .normal ∧ (∀ c ∈ w.ws, c = SP) ∧ HNorm r

/-- what `HNorm` asks of every fragment (`hnorm_iff`) -/
def FragNormal (w : Word) : Prop := Ansi.run .normal w.word = .normal ∧ ∀ c ∈ w.ws, c = SP

theorem hnorm_iff (frs : List Word) : HNorm frs ↔ ∀ w ∈ frs, FragNormal w := by
  induction frs with
  | nil => simp [HNorm]
  | cons w r ih => simp only [HNorm, ih, List.mem_cons, forall_eq_or_imp, FragNormal, and_assoc]

theorem hnorm_append {a b : List Word} : HNorm (a ++ b) ↔ HNorm a ∧ HNorm b := by
  simp only [hnorm_iff, List.mem_append, or_imp, forall_and]

theorem hnorm_of_escfree (frs : List Word) (hsp : ∀ w ∈ frs, ∀ c ∈ w.ws, c = SP)
    (hesc : ∀ c ∈ wordsText frs, c ≠ ESC) : HNorm frs :=
  (hnorm_iff frs).mpr fun w hw => ⟨run_normal_escfree _ fun c hc => hesc c
    (List.mem_flatten.mpr ⟨w.text, List.mem_map_of_mem hw, by simp [Word.text, hc]⟩), hsp w hw⟩

/-- no fragment carries a penalty (with a built-in splitter: `pipeline_noPen`) -/
def NoPen (frs : List Word) : Prop := ∀ w ∈ frs, w.pen = []

/-! ### sums of cached widths -/

/-- sum of `width + whitespace length` of the fragments -/
def fragSum (ws : List Word) : Nat := (ws.map fun w => w.width + blen w.ws).sum

@[simp] theorem fragSum_nil : fragSum [] = 0 := rfl
@[simp] theorem fragSum_cons (w : Word) (r : List Word) : fragSum (w :: r) = w.width + blen w.ws + fragSum r := by
  simp [fragSum]
@[simp] theorem fragSum_append (a b : List Word) : fragSum (a ++ b) = fragSum a + fragSum b := by
  simp [fragSum]

theorem fragSum_le_blen (cw : Char → Nat) (hcw : ∀ c, cw c ≤ c.utf8Size) (ws : List Word)
    (h : ∀ w ∈ ws, FragOk cw w) : fragSum ws ≤ blen (wordsText ws) := by
  induction ws with
  | nil => simp
  | cons w r ih =>
    simp only [fragSum_cons, wordsText_cons, blen_append, (h w (by simp)).2]
    exact Nat.add_le_add (Nat.add_le_add_right (displayWidth_le_blen cw hcw w.word) _)
      (ih fun x hx => h x (by simp [hx]))

theorem vis_wordsText (g : List Word) (h : ∀ w ∈ g, FragNormal w) :
    Vis (wordsText g) (wordsText (g.map stripW)) := by
  induction g with
  | nil => exact Vis.nil
  | cons w r ih =>
    obtain ⟨hrun, hsp⟩ := h w (by simp)
    simpa [stripW] using ((Vis.append ⟨rfl, hrun⟩ (Vis.spaces hsp)).append (ih fun x hx => h x (by simp [hx])))

theorem vis_groupSlice (g : List Word) (h : ∀ w ∈ g, FragNormal w) :
    Vis (groupSlice g) (groupSlice (g.map stripW)) := by
  unfold groupSlice
  rw [List.getLast?_map, ← List.map_dropLast]
  cases hl : g.getLast? with
  | none => exact Vis.nil
  | some last =>
    exact (vis_wordsText _ fun w hw => h w ((List.dropLast_sublist g).subset hw)).append
      ⟨rfl, (h last (List.mem_of_getLast? hl)).1⟩

theorem hnorm_additive {cw : Char → Nat} (hsp : cw SP = 1) {frs : List Word} (hn : ∀ w ∈ frs, FragNormal w)
    (hw : ∀ w ∈ frs, w.width = displayWidth cw w.word) : displayWidth cw (wordsText frs) = fragSum frs := by
  induction frs with
  | nil => rfl
  | cons w r ih =>
    obtain ⟨h1, h2⟩ := hn w (by simp)
    rw [wordsText_cons, fragSum_cons, displayWidth_append cw (by rw [run_append, h1, run_normal_spaces _ h2]),
      displayWidth_append cw h1, ih (fun x hx => hn x (by simp [hx])) (fun x hx => hw x (by simp [hx])),
      ← hw w (by simp), displayWidth_spaces cw hsp _ h2]

theorem groupSlice_width {cw : Char → Nat} (hsp : cw SP = 1) {pre : List Word} {last : Word}
    (hn : ∀ w ∈ pre ++ [last], FragNormal w) (hw : ∀ w ∈ pre ++ [last], w.width = displayWidth cw w.word) :
    displayWidth cw (groupSlice (pre ++ [last])) = fragSum pre + last.width ∧
      Ansi.run .normal (groupSlice (pre ++ [last])) = .normal := by
  have hpre : ∀ w ∈ pre, FragNormal w := fun w hw' => hn w (by simp [hw'])
  refine ⟨?_, (vis_groupSlice _ hn).2⟩
  have : groupSlice (pre ++ [last]) = wordsText pre ++ last.word := by
    simp [groupSlice]
  rw [this, displayWidth_append cw (vis_wordsText pre hpre).2, hnorm_additive hsp hpre fun w hw' => hw w (by simp [hw']),
    hw last (by simp)]

/-! ### first-fit on word fragments over `Int` -/

theorem ofNat_add (a b : Nat) : (CostNum.ofNat (α := Int) a + CostNum.ofNat b) = CostNum.ofNat (a + b) := by
  simp [CostNum.ofNat]

theorem ofNat_int (n : Nat) : (CostNum.ofNat (α := Int) n) = (n : Int) := rfl

/-- what turns the greedy invariant (`GreedyLines`, stated with `lineAcc` for any number type) into
    a bound on widths -/
theorem lineAcc_fragOf (ws : List Word) : lineAcc (fragOf (α := Int)) ws = (fragSum ws : Int) := by
  unfold lineAcc
  have key : ∀ (acc : Int) (l : List Word),
      l.foldl (fun acc f => acc + ((fragOf (α := Int) f).w + (fragOf (α := Int) f).ws)) acc = acc + (fragSum l : Int) := by
    intro acc l
    induction l generalizing acc with
    | nil => simp
    | cons w r ih =>
      simp only [List.foldl_cons]
      rw [ih]
      simp only [fragSum_cons, fragOf, ofNat_int]
      omega
  rw [key]; simp

theorem le_of_lineFits_fragOf {lw : Nat} {pre : List Word} {last : Word} (hpre : pre ≠ [])
    (h : lineFits (fragOf (α := Int)) (CostNum.ofNat lw) (pre ++ [last])) :
    fragSum pre + last.width + blen last.pen ≤ lw := by
  rcases ((lineFits_append_singleton _).mp h).2 with e | hle
  · exact absurd e hpre
  · rw [lineAcc_fragOf] at hle
    simp only [fragOf, ofNat_int] at hle
    omega

theorem fitsFrom_fragOf_of_le {lw : Int} (acc : Nat) (first : Bool) {fs : List Word} (hnp : NoPen fs)
    (h : ((acc + fragSum fs : Nat) : Int) ≤ lw) : fitsFrom (fragOf (α := Int)) lw acc first fs := by
  induction fs generalizing acc first with
  | nil => trivial
  | cons f fs ih =>
    have hp : f.pen = [] := hnp f (by simp)
    rw [fragSum_cons] at h
    refine ⟨Or.inr ?_, ?_⟩
    · simp only [fragOf, hp, blen_nil, ofNat_int]
      omega
    · have := ih (acc + (f.width + blen f.ws)) false (fun w hw => hnp w (by simp [hw])) (by omega)
      simpa [fragOf, ofNat_int] using this

theorem wrapFirstFit_one_line (lws : List Int) (frs : List Word) (hnp : NoPen frs)
    (hfit : (fragSum frs : Int) ≤ lws.getD 0 (defaultLw lws)) :
    wrapFirstFit (fragOf (α := Int)) frs lws = [frs] :=
  wrapFirstFit_of_fits _ lws frs (fitsFrom_fragOf_of_le 0 true hnp (by rwa [Nat.zero_add]))

end TW
