/-
  `wrap`: `text.split(line_ending)` and the paragraph loop, which the proofs enter by `wrapParas_nil`
  and `wrapParas_cons` (`wrapParas_cons_eq_some` for a run that returns). What holds line by line in
  every paragraph holds line by line in the text (`wrapParas_lift`); slices and gaps that decompose
  every paragraph decompose the text (`wrapParas_decomp`); seen through a view of the lines that
  commutes with the shift of offsets the loop is the same loop on the views (`wrapParas_map_cons`),
  so routines whose lines look alike under the view give results that look alike (`wrapParas_map_congr`).
-/
import Lemmas.WrapLine
namespace TW
open C05 (indentOf)

/-- what the paragraph loop does to the lines of a paragraph that starts at byte `off` of the text:
    slice offsets become offsets into the text -/
def shiftD (off : Nat) (d : LineD) : LineD := { d with start := d.start + off }

@[simp] theorem shiftD_render (off : Nat) (d : LineD) : (shiftD off d).render = d.render := rfl
@[simp] theorem shiftD_slice (off : Nat) (d : LineD) : (shiftD off d).slice = d.slice := rfl
@[simp] theorem shiftD_indent (off : Nat) (d : LineD) : (shiftD off d).indent = d.indent := rfl
@[simp] theorem shiftD_pen (off : Nat) (d : LineD) : (shiftD off d).pen = d.pen := rfl
@[simp] theorem shiftD_borrowed (off : Nat) (d : LineD) : (shiftD off d).borrowed = d.borrowed := rfl
@[simp] theorem shiftD_len (off : Nat) (d : LineD) : (shiftD off d).len = d.len := rfl

section
variable {elen : Nat} {single : Text → Nat → Option (List LineD)} {p : Text} {ps paras : List Text}
  {off n : Nat} {ds : List LineD}

@[simp] theorem wrapParas_nil : wrapParas elen single [] off n = some [] := rfl

theorem wrapParas_cons :
    wrapParas elen single (p :: ps) off n =
      (single p n).bind fun ls =>
        (wrapParas elen single ps (off + blen p + elen) (n + ls.length)).map (ls.map (shiftD off) ++ ·) := by
  simp only [wrapParas]
  cases single p n with
  | none => rfl
  | some ls =>
    simp only [Option.bind_some]
    cases wrapParas elen single ps (off + blen p + elen) (n + ls.length) <;> rfl

theorem wrapParas_cons_eq_some :
    wrapParas elen single (p :: ps) off n = some ds ↔
      ∃ ls, single p n = some ls ∧ ∃ rest,
        wrapParas elen single ps (off + blen p + elen) (n + ls.length) = some rest ∧
        ls.map (shiftD off) ++ rest = ds := by
  simp only [wrapParas_cons, Option.bind_eq_some_iff, Option.map_eq_some_iff]

theorem wrapParas_total (hs : ∀ p n, ∃ ds, single p n = some ds) :
    ∃ ds, wrapParas elen single paras off n = some ds := by
  induction paras generalizing off n with
  | nil => exact ⟨[], rfl⟩
  | cons p ps ih =>
    obtain ⟨ls, hl⟩ := hs p n
    obtain ⟨r, hr⟩ := @ih (off + blen p + elen) (n + ls.length)
    exact ⟨_, wrapParas_cons_eq_some.mpr ⟨ls, hl, r, hr, rfl⟩⟩

theorem Decomp.shift {base : Nat} {l : List (LineD × Text)} {t : Text} (h : Decomp base l t) (off : Nat) :
    Decomp (off + base) (l.map (Prod.map (shiftD off) id)) t := by
  induction l generalizing base t with
  | nil => exact h
  | cons p r ih =>
    obtain ⟨d, gap⟩ := p
    obtain ⟨h1, h2, t', h3, h4⟩ := h
    exact ⟨h1 ▸ Nat.add_comm _ _, h2, t', h3, by simpa only [shiftD_slice, id, Nat.add_assoc] using ih h4⟩

/-- a gap between two slices: spaces, optionally followed by one line ending -/
def GapOK (e : Text) (g : Text) : Prop := ∃ sp, (∀ c ∈ sp, c = SP) ∧ (g = sp ∨ g = sp ++ e)

theorem Decomp.append {off : Nat} {l1 l2 : List (LineD × Text)} {t1 t2 : Text} (h1 : Decomp off l1 t1)
    (h2 : Decomp (off + blen t1) l2 t2) : Decomp off (l1 ++ l2) (t1 ++ t2) := by
  induction l1 generalizing off t1 with
  | nil =>
    obtain rfl : t1 = [] := h1
    exact h2
  | cons p r ih =>
    obtain ⟨d, gap⟩ := p
    obtain ⟨a1, a2, t', rfl, a4⟩ := h1
    exact ⟨a1, a2, t' ++ t2, List.append_assoc .., ih a4 (by simpa only [blen_append, Nat.add_assoc] using h2)⟩

/-- the line ending after a paragraph joins the gap of the paragraph's last line -/
theorem Decomp.extend (e : Text) {off : Nat} {ds : List LineD} {gaps : List Text} {t : Text}
    (hlen : gaps.length = ds.length) (hne : ds ≠ []) (hsp : ∀ g ∈ gaps, ∀ c ∈ g, c = SP)
    (h : Decomp off (ds.zip gaps) t) :
    ∃ gaps' : List Text, gaps'.length = ds.length ∧ Decomp off (ds.zip gaps') (t ++ e) ∧
      ∀ g ∈ gaps', GapOK e g := by
  induction ds generalizing off gaps t with
  | nil => exact absurd rfl hne
  | cons d r ih =>
    match gaps, hlen with
    | g :: gs, hlen =>
      obtain ⟨a1, a2, t', rfl, a4⟩ := h
      have hg := hsp g List.mem_cons_self
      cases r with
      | nil =>
        obtain rfl : t' = [] := a4
        exact ⟨[g ++ e], rfl, ⟨a1, a2, [], by simp, rfl⟩, List.forall_mem_singleton.mpr ⟨g, hg, Or.inr rfl⟩⟩
      | cons d2 r2 =>
        obtain ⟨gs', l', d', g'⟩ := ih (Nat.succ.inj hlen) (List.cons_ne_nil _ _) (fun x hx => hsp x (List.mem_cons_of_mem _ hx)) a4
        exact ⟨g :: gs', congrArg Nat.succ l', ⟨a1, a2, t' ++ e, List.append_assoc .., d'⟩,
          List.forall_mem_cons.mpr ⟨⟨g, hg, Or.inl rfl⟩, g'⟩⟩

theorem wrapParas_decomp (e : Text) {o : Opts} (hs : ∀ p n ls, single p n = some ls → LineSpec o p n ls)
    (h : wrapParas (blen e) single paras off n = some ds) :
    ∃ gaps : List Text, gaps.length = ds.length ∧ Decomp off (ds.zip gaps) (joinWith e paras) ∧
      (∀ g ∈ gaps, GapOK e g) := by
  induction paras generalizing off n ds with
  | nil =>
    obtain rfl := Option.some.inj h
    exact ⟨[], rfl, rfl, fun _ h => nomatch h⟩
  | cons p ps ih =>
    obtain ⟨ls, hls, rest, hrest, rfl⟩ := wrapParas_cons_eq_some.mp h
    obtain ⟨lne, ⟨gp, gl, gd, gsp⟩, -⟩ := hs p n ls hls
    obtain ⟨gr, rl, rd, rg⟩ := ih hrest
    cases ps with
    | nil =>
      obtain rfl := Option.some.inj hrest
      refine ⟨gp, by simp [gl], ?_, fun g hg => ⟨g, gsp g hg, Or.inl rfl⟩⟩
      rw [List.append_nil, List.zip_map_left]
      exact gd.shift off
    | cons q qs =>
      obtain ⟨gp', gl', gd', gg'⟩ := gd.extend e gl lne gsp
      refine ⟨gp' ++ gr, by simp [gl', rl], ?_, List.forall_mem_append.mpr ⟨gg', rg⟩⟩
      rw [joinWith_cons_cons, List.zip_append (by simp [gl']), List.zip_map_left]
      exact (gd'.shift off).append (by simpa [Nat.add_assoc] using rd)

theorem wrapParas_lift (P : Nat → LineD → Prop) (hshift : ∀ n d off, P n d → P n (shiftD off d))
    (hs : ∀ p ∈ paras, ∀ n ls, single p n = some ls → ∀ k d, ls[k]? = some d → P (n + k) d)
    (h : wrapParas elen single paras off n = some ds) :
    ∀ k d, ds[k]? = some d → P (n + k) d := by
  induction paras generalizing off n ds with
  | nil =>
    obtain rfl := Option.some.inj h
    exact fun k d hk => nomatch hk
  | cons p ps ih =>
    obtain ⟨ls, hls, rest, hrest, rfl⟩ := wrapParas_cons_eq_some.mp h
    intro k d hk
    by_cases hlt : k < ls.length
    · rw [List.getElem?_append_left (by simpa using hlt), List.getElem?_map] at hk
      obtain ⟨d0, hd0, rfl⟩ := Option.map_eq_some_iff.mp hk
      exact hshift _ _ _ (hs p List.mem_cons_self n ls hls k d0 hd0)
    · rw [List.getElem?_append_right (by simpa using Nat.le_of_not_lt hlt), List.length_map] at hk
      have := ih (fun q hq => hs q (List.mem_cons_of_mem _ hq)) hrest (k - ls.length) d hk
      rwa [Nat.add_assoc, Nat.add_sub_cancel' (Nat.le_of_not_lt hlt)] at this

/-- the loop seen through a view `φ` of the lines that commutes with shifting: `render`, which
    forgets the offset (`wrapR_cons`), `C08.dropIndent`, which keeps it. The loop reads of a
    paragraph's lines only their number, so the views of the lines go in and come out. -/
theorem wrapParas_map_cons {β : Type} (φ : LineD → β) (sh : Nat → β → β)
    (hφ : ∀ off d, φ (shiftD off d) = sh off (φ d)) :
    (wrapParas elen single (p :: ps) off n).map (·.map φ) =
      ((single p n).map (·.map φ)).bind fun m =>
        ((wrapParas elen single ps (off + blen p + elen) (n + m.length)).map (·.map φ)).map
          (m.map (sh off) ++ ·) := by
  rw [wrapParas_cons]
  cases single p n with
  | none => rfl
  | some ls =>
    simp only [Option.bind_some, Option.map_some, Option.map_map, List.length_map]
    congr 1
    funext r
    simp [hφ]

/-- for rendered lines over two different lists of paragraphs: `wrapR_sim` -/
theorem wrapParas_map_congr {β : Type} (φ : LineD → β) (sh : Nat → β → β)
    (hφ : ∀ off d, φ (shiftD off d) = sh off (φ d)) {s s' : Text → Nat → Option (List LineD)}
    (hs : ∀ p ∈ paras, ∀ n, (s' p n).map (·.map φ) = (s p n).map (·.map φ)) :
    (wrapParas elen s' paras off n).map (·.map φ) = (wrapParas elen s paras off n).map (·.map φ) := by
  induction paras generalizing off n with
  | nil => rfl
  | cons p ps ih =>
    rw [wrapParas_map_cons φ sh hφ, wrapParas_map_cons φ sh hφ, hs p List.mem_cons_self n]
    congr 1
    funext m
    rw [ih fun q hq => hs q (List.mem_cons_of_mem _ hq)]

theorem wrapParas_length_ge (hs : ∀ p n ls, single p n = some ls → ls ≠ [])
    (h : wrapParas elen single paras off n = some ds) : paras.length ≤ ds.length := by
  induction paras generalizing off n ds with
  | nil => simp
  | cons p ps ih =>
    obtain ⟨ls, hls, rest, hrest, rfl⟩ := wrapParas_cons_eq_some.mp h
    rw [List.length_append, List.length_map, List.length_cons, Nat.add_comm ls.length]
    exact Nat.add_le_add (ih hrest) (List.length_pos_iff.mpr (hs p n ls hls))

end

/-! ### `text.split(ending)` -/

theorem joinWith_splitEnding (e : LineEnding) (t : Text) : joinWith e.str (splitEnding e t) = t := by
  cases e with
  | lf => exact joinWith_splitLF t
  | crlf => exact joinWith_splitCRLF t

theorem splitEnding_ne_nil (e : LineEnding) (t : Text) : splitEnding e t ≠ [] := by
  cases e with
  | lf => exact splitLF_ne_nil t
  | crlf => exact splitCRLF_ne_nil t

theorem splitEnding_append (e : LineEnding) (a b : Text) :
    splitEnding e (a ++ e.str ++ b) = splitEnding e a ++ splitEnding e b := by
  cases e with
  | lf => simpa [splitEnding, LineEnding.str] using splitLF_append a b
  | crlf => simpa [splitEnding, LineEnding.str] using splitCRLF_append a b

theorem splitEnding_of_noLF (e : LineEnding) (t : Text) (h : LF ∉ t) : splitEnding e t = [t] := by
  cases e with
  | lf => exact splitLF_of_noLF t h
  | crlf => exact splitCRLF_of_noLF t h

theorem splitEnding_joinWith (e : LineEnding) (ls : List Text) (hne : ls ≠ []) (hno : ∀ l ∈ ls, LF ∉ l) :
    splitEnding e (joinWith e.str ls) = ls := by
  fun_induction joinWith e.str ls with
  | case1 => exact absurd rfl hne
  | case2 a => exact splitEnding_of_noLF e a (hno a List.mem_cons_self)
  | case3 a b r ih =>
    rw [splitEnding_append, ih (List.cons_ne_nil _ _) (fun l hl => hno l (List.mem_cons_of_mem _ hl)),
      splitEnding_of_noLF e a (hno a List.mem_cons_self)]
    rfl

theorem splitEnding_joinWith_map {ι : Type} (e : LineEnding) (l : List ι) (hne : l ≠ []) (f : ι → Text)
    (hf : ∀ i ∈ l, LF ∉ f i) : splitEnding e (joinWith e.str (l.map f)) = l.map f :=
  splitEnding_joinWith e _ (by simpa using hne) (List.forall_mem_map.mpr hf)

section
variable {α : Type} [CostNum α] {env : Env} {mo : MinimaOracle α} {o : Opts} {text : Text}
  {ds : List LineD} {ls : List Text}

theorem wrap_eq_some :
    wrap env mo o text = some ls ↔ ∃ ds, wrapD env mo o text = some ds ∧ ds.map LineD.render = ls :=
  Option.map_eq_some_iff

theorem wrapD_indent (h : wrapD env mo o text = some ds) :
    (splitEnding o.lineEnding text).length ≤ ds.length ∧
    ∀ k (d : LineD), ds[k]? = some d →
      d.indent = indentOf o k ∧ d.borrowed = (d.indent.isEmpty && d.pen.isEmpty) := by
  refine ⟨wrapParas_length_ge (fun _ _ _ hl => (wrapSingleLine_indent hl).1) h, fun k d hk => ?_⟩
  have := wrapParas_lift
    (fun n d => d.indent = indentOf o n ∧ d.borrowed = (d.indent.isEmpty && d.pen.isEmpty))
    (fun _ _ _ hd => hd) (fun _ _ _ _ hl => (wrapSingleLine_indent hl).2) h k d hk
  rwa [Nat.zero_add] at this

theorem wrapD_ne_nil (h : wrapD env mo o text = some ds) : ds ≠ [] :=
  List.length_pos_iff.mp (Nat.lt_of_lt_of_le
    (List.length_pos_iff.mpr (splitEnding_ne_nil o.lineEnding text)) (wrapD_indent h).1)

theorem wrap_lines_forall {Q : Text → Prop}
    (hs : ∀ p ∈ splitEnding o.lineEnding text, ∀ n ds, wrapSingleLine env mo o p n = some ds →
      ∀ d ∈ ds, Q d.render)
    (h : wrap env mo o text = some ls) : ∀ l ∈ ls, Q l := by
  obtain ⟨ds, hd, rfl⟩ := wrap_eq_some.mp h
  intro l hl
  obtain ⟨d, hdm, rfl⟩ := List.mem_map.mp hl
  obtain ⟨k, hk⟩ := List.getElem?_of_mem hdm
  exact wrapParas_lift (fun _ d => Q d.render) (fun _ _ _ hd => hd)
    (fun p hp n ds hds k d hk => hs p hp n ds hds d (List.mem_of_getElem? hk)) hd k d hk

theorem wrap_nonempty (h : wrap env mo o text = some ls) : ls ≠ [] := by
  obtain ⟨ds, hd, rfl⟩ := wrap_eq_some.mp h
  simpa using wrapD_ne_nil hd

theorem wrap_of_noLF (env : Env) (mo : MinimaOracle α) (o : Opts) {text : Text} (h : LF ∉ text) :
    wrap env mo o text = (wrapSingleLine env mo o text 0).map (·.map LineD.render) := by
  rw [wrap, wrapD, splitEnding_of_noLF o.lineEnding text h, wrapParas_cons]
  cases wrapSingleLine env mo o text 0 with
  | none => rfl
  | some ds => simp [Function.comp_def]

/-- `fill` is `wrap`'s lines joined by the line ending, also on `fill`'s shortcut: its condition makes the
    text one paragraph and is `wrap_single_line`'s own condition for the first line -/
theorem fill_eq (env : Env) (mo : MinimaOracle α) (o : Opts) (t : Text) :
    fill env mo o t = (wrap env mo o t).map (joinWith o.lineEnding.str) := by
  unfold fill
  split
  · next hc =>
    rw [wrap_of_noLF env mo o (by simpa using hc.2.1),
      wrapSingleLine_short env mo hc.1 (by simpa [C05.indentOf] using hc.2.2)]
    simp
  · rfl

end
end TW
