/-
  The escape skipper: `run`, `stripFrom` and `dwFrom` over concatenation and on ESC-free text
  (widths go through `dwFrom_eq_sum_strip`); `Vis a v`, "`a` is `v` with complete sequences put
  in", the form in which these facts compose; and the token grammar of well-formed text (`Seg`)
  that the C10 statements speak of.
-/
import TextwrapModel.Ansi
import Lemmas.Bytes
namespace TW

theorem step_normal {c : Char} (h : c ≠ ESC) : Ansi.normal.step c = (.normal, true) := by
  simp [Ansi.step, h]

theorem step_visible_iff (s : Ansi) (c : Char) : (s.step c).2 = true ↔ s = .normal ∧ c ≠ ESC := by
  refine ⟨fun h => ?_, fun ⟨hs, hc⟩ => by rw [hs, step_normal hc]⟩
  cases s with
  | normal => exact ⟨rfl, fun hc => by simp [Ansi.step, hc] at h⟩
  | _ =>
    -- in every other state all branches are invisible
    simp only [Ansi.step, apply_ite Prod.snd, ite_self] at h
    cases h

theorem step_cases (s : Ansi) (c : Char) :
    (s = .normal ∧ c ≠ ESC ∧ s.step c = (.normal, true)) ∨ (s.step c).2 = false := by
  by_cases h : (s.step c).2 = true
  · obtain ⟨rfl, hc⟩ := (step_visible_iff s c).mp h
    exact .inl ⟨rfl, hc, step_normal hc⟩
  · exact .inr (by simpa using h)

theorem dwFrom_le_blen (cw : Char → Nat) (h : ∀ c, cw c ≤ c.utf8Size) (s : Ansi) (t : Text) :
    dwFrom cw s t ≤ blen t := by
  induction t generalizing s with
  | nil => simp [dwFrom]
  | cons c cs ih =>
    simp only [dwFrom, blen_cons]
    have := ih (s.step c).1
    have := h c
    split <;> omega

@[simp] theorem run_nil (s : Ansi) : s.run [] = s := rfl
@[simp] theorem run_cons (s : Ansi) (c : Char) (cs : Text) : s.run (c :: cs) = (s.step c).1.run cs := rfl
@[simp] theorem stripFrom_nil (s : Ansi) : stripFrom s [] = [] := rfl

theorem run_append (s : Ansi) (a b : Text) : s.run (a ++ b) = (s.run a).run b := by
  induction a generalizing s with
  | nil => rfl
  | cons c cs ih => simp [ih]

theorem run_snoc (s : Ansi) (a : Text) (c : Char) : s.run (a ++ [c]) = ((s.run a).step c).1 := by
  rw [run_append]; rfl

theorem stripFrom_cons (s : Ansi) (c : Char) (cs : Text) :
    stripFrom s (c :: cs) = (if (s.step c).2 then [c] else []) ++ stripFrom (s.step c).1 cs := by
  simp only [stripFrom]; split <;> simp

theorem stripFrom_append (s : Ansi) (a b : Text) :
    stripFrom s (a ++ b) = stripFrom s a ++ stripFrom (s.run a) b := by
  induction a generalizing s with
  | nil => rfl
  | cons c cs ih => rw [List.cons_append, stripFrom_cons, stripFrom_cons, ih, List.append_assoc, run_cons]

theorem stripAnsi_snoc (a : Text) (c : Char) :
    stripAnsi (a ++ [c]) = stripAnsi a ++ if ((Ansi.run .normal a).step c).2 then [c] else [] := by
  rw [stripAnsi, stripFrom_append, stripFrom_cons, stripFrom_nil, List.append_nil]; rfl

theorem stripFrom_cons_eq_nil {s : Ansi} {q : Char} {Q : Text} :
    stripFrom s (q :: Q) = [] ↔ (s.step q).2 = false ∧ stripFrom (s.step q).1 Q = [] := by
  by_cases h : (s.step q).2 = true <;> simp [stripFrom, h]

theorem stripFrom_noEsc (s : Ansi) (t : Text) : ∀ c ∈ stripFrom s t, c ≠ ESC := by
  induction t generalizing s with
  | nil => simp
  | cons d ds ih =>
    rw [stripFrom_cons]
    rcases step_cases s d with ⟨-, hd, hst⟩ | hv
    · rw [hst]; exact List.forall_mem_cons.mpr ⟨hd, ih _⟩
    · rw [hv]; exact ih _

/-- `a` is `v` with escape sequences put in, the last of them complete. Stripping is a monoid
    homomorphism on such pairs (`Vis.append`), which is all that C13's stage lemmas use of it. -/
def Vis (a v : Text) : Prop := stripAnsi a = v ∧ Ansi.run .normal a = .normal

theorem Vis.nil : Vis [] [] := ⟨rfl, rfl⟩

theorem Vis.append_iff {a v b u : Text} (h : Vis a v) : Vis (a ++ b) (v ++ u) ↔ Vis b u := by
  unfold Vis
  rw [stripAnsi, stripFrom_append, run_append, h.2, ← stripAnsi, h.1, List.append_cancel_left_eq]
  rfl

theorem Vis.append {a v b u : Text} (h1 : Vis a v) (h2 : Vis b u) : Vis (a ++ b) (v ++ u) :=
  h1.append_iff.mpr h2

theorem Vis.cancel_left {a v b u : Text} (h1 : Vis a v) (h2 : Vis (a ++ b) (v ++ u)) : Vis b u :=
  h1.append_iff.mp h2

theorem Vis.char {c : Char} (hc : c ≠ ESC) : Vis [c] [c] :=
  ⟨by simp [stripAnsi, stripFrom, step_normal hc], by simp [step_normal hc]⟩

theorem Vis.escfree {t : Text} (h : ∀ c ∈ t, c ≠ ESC) : Vis t t := by
  induction t with
  | nil => exact Vis.nil
  | cons c cs ih => exact (Vis.char (h c (by simp))).append (ih fun d hd => h d (by simp [hd]))

theorem run_normal_escfree (t : Text) (h : ∀ c ∈ t, c ≠ ESC) : Ansi.run .normal t = .normal :=
  (Vis.escfree h).2

theorem stripFrom_normal_escfree (t : Text) (h : ∀ c ∈ t, c ≠ ESC) : stripFrom .normal t = t :=
  (Vis.escfree h).1

theorem escfree_of_spaces {t : Text} (h : ∀ c ∈ t, c = SP) : ∀ c ∈ t, c ≠ ESC :=
  fun c hc => by rw [h c hc]; decide

theorem Vis.spaces {sp : Text} (h : ∀ c ∈ sp, c = SP) : Vis sp sp :=
  Vis.escfree (escfree_of_spaces h)

theorem run_normal_spaces (t : Text) (h : ∀ c ∈ t, c = SP) : Ansi.run .normal t = .normal :=
  (Vis.spaces h).2

variable (cw : Char → Nat)

/-- every fact about `dwFrom` is one about `stripFrom` -/
theorem dwFrom_eq_sum_strip (s : Ansi) (t : Text) :
    dwFrom cw s t = ((stripFrom s t).map cw).sum := by
  induction t generalizing s with
  | nil => rfl
  | cons c cs ih =>
    simp only [dwFrom, stripFrom, ih]
    split <;> simp

theorem dwFrom_append (s : Ansi) (a b : Text) :
    dwFrom cw s (a ++ b) = dwFrom cw s a + dwFrom cw (s.run a) b := by
  simp [dwFrom_eq_sum_strip, stripFrom_append]

theorem dwFrom_normal_escfree (t : Text) (h : ∀ c ∈ t, c ≠ ESC) :
    dwFrom cw .normal t = (t.map cw).sum := by
  rw [dwFrom_eq_sum_strip, stripFrom_normal_escfree t h]

@[simp] theorem displayWidth_nil : displayWidth cw [] = 0 := rfl

theorem displayWidth_append {a : Text} (h : Ansi.run .normal a = .normal) (b : Text) :
    displayWidth cw (a ++ b) = displayWidth cw a + displayWidth cw b := by
  simp only [displayWidth, dwFrom_append, h]

theorem displayWidth_snoc (a : Text) (c : Char) :
    displayWidth cw (a ++ [c]) = displayWidth cw a + if ((Ansi.run .normal a).step c).2 then cw c else 0 := by
  simp [displayWidth, dwFrom_append, dwFrom]

theorem displayWidth_flatten (ps : List Text) (h : ∀ p ∈ ps, Ansi.run .normal p = .normal) :
    Ansi.run .normal ps.flatten = .normal ∧
      displayWidth cw ps.flatten = (ps.map (displayWidth cw)).sum := by
  induction ps with
  | nil => exact ⟨rfl, rfl⟩
  | cons p r ih =>
    obtain ⟨i1, i2⟩ := ih (fun q hq => h q (by simp [hq]))
    simp [run_append, displayWidth_append, h p (by simp), i1, i2]

theorem displayWidth_le_blen (h : ∀ c, cw c ≤ c.utf8Size) (t : Text) :
    displayWidth cw t ≤ blen t := dwFrom_le_blen cw h .normal t

theorem displayWidth_spaces (hsp : cw SP = 1) (t : Text) (h : ∀ c ∈ t, c = SP) :
    displayWidth cw t = blen t := by
  rw [displayWidth, dwFrom_normal_escfree cw t (escfree_of_spaces h), blen_eq_sum]
  exact congrArg List.sum (List.map_congr_left fun c hc => by rw [h c hc, hsp]; rfl)

/-! ### the token grammar of well-formed text -/

/-- OSC payload that does not terminate early: no BEL, and no `\` directly after an ESC
    (`l` = the char before the payload was ESC) -/
def oscBodyOk : Bool → Text → Bool
  | _, [] => true
  | l, c :: cs => c != BEL && !(c == '\\' && l) && oscBodyOk (decide (c = ESC)) cs

inductive OscEnd where
  | bel
  | st       -- `ESC \`
  deriving DecidableEq, Repr

def OscEnd.text : OscEnd → Text
  | .bel => [BEL]
  | .st => [ESC, '\\']

/-- one token of well-formed text -/
inductive Seg where
  | ch (c : Char)                                   -- a visible char, `c ≠ ESC`
  | csi (params : Text) (final : Char)              -- `ESC [ params final`
  | osc (body : Text) (e : OscEnd)                  -- `ESC ] body (BEL | ESC \)`

def Seg.ok : Seg → Bool
  | .ch c => c != ESC
  | .csi params final => params.all (fun c => !isFinalByte c) && isFinalByte final
  | .osc body _ => oscBodyOk false body

def Seg.render : Seg → Text
  | .ch c => [c]
  | .csi params final => [ESC, '['] ++ params ++ [final]
  | .osc body e => [ESC, ']'] ++ body ++ e.text

def Seg.visible : Seg → Text
  | .ch c => [c]
  | _ => []

def renderSegs (l : List Seg) : Text := (l.map Seg.render).flatten
def visibleSegs (l : List Seg) : Text := (l.map Seg.visible).flatten

theorem csi_params (p : Text) (h : p.all (fun c => !isFinalByte c) = true) :
    Ansi.run .csi p = .csi ∧ stripFrom .csi p = [] := by
  induction p with
  | nil => exact ⟨rfl, rfl⟩
  | cons c cs ih =>
    rw [List.all_cons, Bool.and_eq_true, Bool.not_eq_true'] at h
    have hst : Ansi.csi.step c = (.csi, false) := by simp [Ansi.step, h.1]
    simpa [stripFrom, hst] using ih h.2

theorem osc_body (l : Bool) (b : Text) (h : oscBodyOk l b = true) :
    ∃ l', Ansi.run (.osc l) b = .osc l' ∧ stripFrom (.osc l) b = [] := by
  induction b generalizing l with
  | nil => exact ⟨l, rfl, rfl⟩
  | cons c cs ih =>
    simp only [oscBodyOk, Bool.and_eq_true, bne_iff_ne, ne_eq, Bool.not_eq_true'] at h
    obtain ⟨⟨h1, h2⟩, h3⟩ := h
    have hst : (Ansi.osc l).step c = (.osc (decide (c = ESC)), false) := if_neg (by simpa [h1] using h2)
    obtain ⟨l', r1, r2⟩ := ih _ h3
    exact ⟨l', by rw [run_cons, hst]; exact r1, by rw [stripFrom_cons, hst]; exact r2⟩

theorem osc_end (l : Bool) (e : OscEnd) :
    Ansi.run (.osc l) e.text = .normal ∧ stripFrom (.osc l) e.text = [] := by
  cases e <;> simp [OscEnd.text, stripFrom, Ansi.step, BEL, ESC]

theorem seg_run (g : Seg) (h : g.ok = true) : Vis g.render g.visible := by
  have e1 : Ansi.normal.step ESC = (.esc, false) := by simp [Ansi.step]
  cases g with
  | ch c => exact Vis.char (by simpa [Seg.ok] using h)
  | csi p f =>
    simp only [Seg.ok, Bool.and_eq_true] at h
    obtain ⟨r1, r3⟩ := csi_params p h.1
    have e2 : Ansi.esc.step '[' = (.csi, false) := by simp [Ansi.step]
    have e3 : Ansi.csi.step f = (.normal, false) := by simp [Ansi.step, h.2]
    simp [Vis, stripAnsi, Seg.render, Seg.visible, stripFrom, e1, e2, run_append, stripFrom_append, r1, r3, e3]
  | osc b e =>
    simp only [Seg.ok] at h
    obtain ⟨l', r1, r3⟩ := osc_body false b h
    obtain ⟨q1, q3⟩ := osc_end l' e
    have e2 : Ansi.esc.step ']' = (.osc false, false) := by simp [Ansi.step]
    simp [Vis, stripAnsi, Seg.render, Seg.visible, stripFrom, e1, e2, run_append, stripFrom_append, r1, r3, q1, q3]

theorem segs_run (l : List Seg) (h : ∀ g ∈ l, g.ok = true) : Vis (renderSegs l) (visibleSegs l) := by
  induction l with
  | nil => exact Vis.nil
  | cons g gs ih => exact (seg_run g (h g (by simp))).append (ih fun x hx => h x (by simp [hx]))

end TW
