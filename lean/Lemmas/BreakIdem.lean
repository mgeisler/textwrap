/-
  Force-breaking is idempotent: a piece produced by `break_apart` is not cut again — the run that
  produced it made no cut inside it, and a fresh run on the piece alone replays the same states.
-/
import Lemmas.Pipeline
namespace TW

variable (cw : Char → Nat) (limit : Nat)

/-- a fresh run over `cur`, whatever follows, reads `cur` without a cut -/
def Uncut (cw : Char → Nat) (limit : Nat) (cur : Text) : Prop :=
  ∀ ws pen rest, breakFrom cw limit ws pen [] (cur ++ rest) = breakFrom cw limit ws pen cur rest

theorem breakFrom_uncut (ws pen : Text) (cur rest : Text)
    (hr : Uncut cw limit cur) : ∀ p ∈ breakFrom cw limit ws pen cur rest, Uncut cw limit p.word := by
  fun_induction breakFrom cw limit ws pen cur rest with
  | case1 => nofun
  | case2 => exact List.forall_mem_singleton.mpr hr
  | case3 cur c cs _ ih =>
    refine List.forall_mem_cons.mpr ⟨hr, ih fun ws2 pen2 rest2 => ?_⟩
    -- nothing is cut off before a first character
    rw [List.singleton_append, breakFrom, if_neg (by simp)]
    rfl
  | case4 cur c cs hno ih =>
    refine ih fun ws2 pen2 rest2 => ?_
    rw [List.append_assoc, List.singleton_append, hr ws2 pen2 (c :: rest2), breakFrom, if_neg hno]

/-- (stated of `breakGo` from its initial state, so that whitespace and penalty of the fresh run are free) -/
theorem breakApart_piece_alone (w : Word) :
    ∀ p ∈ breakApart cw limit w, ∀ ws' pen',
      breakGo cw limit ws' pen' .normal [] 0 p.word = [{ word := p.word, width := p.width, ws := ws', pen := pen' }] := by
  intro p hp ws' pen'
  have hu := breakFrom_uncut cw limit w.ws w.pen [] w.word (fun _ _ _ => rfl) p (breakApart_eq cw limit w ▸ hp) ws' pen' []
  obtain ⟨hwd, hne, _⟩ := breakOK_mem (breakApart_ok cw limit w) p hp
  rw [List.append_nil, breakFrom, if_neg (by simpa using hne), ← hwd] at hu
  exact (breakGo_eq cw limit ws' pen' [] p.word).trans hu

theorem breakApart_idem (w : Word) :
    ∀ p ∈ breakApart cw limit w, breakApart cw limit p = [p] :=
  fun p hp => breakApart_piece_alone cw limit w p hp p.ws p.pen

theorem breakWords_idem (ws : List Word) :
    breakWords cw limit (breakWords cw limit ws) = breakWords cw limit ws := by
  refine breakWords_fixed cw limit _ fun p hp hlt => ?_
  obtain ⟨w, _, ⟨_, h⟩ | ⟨rfl, hle⟩⟩ := mem_breakWords p hp
  · exact breakApart_idem cw limit w p h
  · exact absurd hlt (Nat.not_lt.mpr hle)

end TW
