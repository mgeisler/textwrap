/-
  C13 (ANSI colour codes do not change where lines break), text by text: stripping the escape
  sequences commutes with concatenation at a cut made in state `normal`, with the display width
  and with `break_apart`. These statements are in namespace `TW.C13`, the names under which
  `Props/C13.lean` audits them; the end-to-end chain uses the first of them as `Vis.append`
  (`Lemmas/Ansi.lean`).
-/
import Lemmas.Break
namespace TW.C13

theorem strip_append_normal (a b : Text) (h : Ansi.run .normal a = .normal) :
    stripAnsi (a ++ b) = stripAnsi a ++ stripAnsi b := by
  unfold stripAnsi; rw [stripFrom_append, h]

theorem dw_strip (cw : Char → Nat) (s : Ansi) (t : Text) :
    dwFrom cw .normal (stripFrom s t) = dwFrom cw s t := by
  rw [dwFrom_eq_sum_strip, dwFrom_eq_sum_strip, stripFrom_normal_escfree _ (stripFrom_noEsc s t)]

theorem displayWidth_strip (cw : Char → Nat) (t : Text) :
    displayWidth cw (stripAnsi t) = displayWidth cw t := dw_strip cw .normal t

def stripW (w : Word) : Word := { w with word := stripAnsi w.word }

section
variable (cw : Char → Nat) (limit : Nat) (ws pen : Text)

/-- once the coloured run stands in state `normal`, both runs decide alike -/
theorem cutBefore_strip {cur : Text} (c : Char) (h : Ansi.run .normal cur = .normal) :
    CutBefore cw limit (stripAnsi cur) c ↔ CutBefore cw limit cur c := by
  unfold CutBefore
  rw [displayWidth_strip, run_normal_escfree (stripAnsi cur) (stripFrom_noEsc .normal cur), h]

/-- `hvis`: a last piece is emitted iff `cur` is non-empty, and a `cur` made of sequences only is
    non-empty on the coloured side and empty on the stripped side -/
theorem breakFrom_strip (cur rest : Text)
    (hvis : stripAnsi cur ≠ [] ∨ stripFrom (Ansi.run .normal cur) rest ≠ []) :
    (breakFrom cw limit ws pen cur rest).map stripW =
      breakFrom cw limit ws pen (stripAnsi cur) (stripFrom (Ansi.run .normal cur) rest) := by
  fun_induction breakFrom cw limit ws pen cur rest with
  | case1 cur h =>
    rw [List.isEmpty_iff.mp h] at hvis
    exact absurd rfl (hvis.elim id id)
  | case2 cur h =>
    have hne : stripAnsi cur ≠ [] := hvis.resolve_right (· rfl)
    rw [stripFrom_nil, breakFrom, if_neg (by simpa using hne), displayWidth_strip]
    rfl
  | case3 cur c cs hcut ih =>
    -- a cut is made before a visible character, which the stripped run reads too; after it both runs stand at `[c]`
    obtain ⟨hs, hc⟩ := (step_visible_iff _ c).mp hcut.1
    have ih := ih (Or.inl (by simp [(Vis.char hc).1]))
    rw [(Vis.char hc).1, (Vis.char hc).2] at ih
    rw [stripFrom_cons, hs, step_normal hc, if_pos rfl, List.singleton_append, breakFrom,
      if_pos ((cutBefore_strip cw limit c hs).mpr hcut), List.map_cons, ih, displayWidth_strip]
    rfl
  | case4 cur c cs hno ih =>
    rw [run_snoc, stripAnsi_snoc] at ih
    rw [stripFrom_cons] at hvis ⊢
    rcases step_cases (Ansi.run .normal cur) c with ⟨hs, hc, hst⟩ | hv
    · simp only [hst, if_true, List.singleton_append] at ih ⊢
      rw [breakFrom, if_neg fun h => hno ((cutBefore_strip cw limit c hs).mp h)]
      exact ih (Or.inl (by simp))
    · simp only [hv, Bool.false_eq_true, if_false, List.append_nil, List.nil_append] at ih hvis ⊢
      exact ih hvis
end

/-- `hvis` holds whenever `break_words` calls `break_apart`: the cached width exceeds the limit, so
    the word has a visible character -/
theorem break_strip_commute (cw : Char → Nat) (limit : Nat) (w : Word) (hvis : stripAnsi w.word ≠ []) :
    (breakApart cw limit w).map stripW = breakApart cw limit (stripW w) := by
  rw [breakApart_eq, breakApart_eq]
  exact breakFrom_strip cw limit w.ws w.pen [] w.word (Or.inr hvis)

end TW.C13
