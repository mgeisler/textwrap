/-
  Refinement: a stage of the pipeline replaces a word by fragments whose words concatenate to it
  and whose last one carries its whitespace (`Refines`; any splitter in range). Strong refinement
  (`RefinesS`) is what the built-in splitters and force-breaking do: all pieces but the last have
  no whitespace and a non-empty word. Refinement keeps the text, hence the contiguity invariant:
  concatenating word and whitespace of all fragments gives the line (`pipeline_contig`).
-/
import Lemmas.Pipeline
namespace TW

variable (cw : Char → Nat) (limit : Nat) (env : Env)

/-- `fs` refines the word `w`: the last fragment carries `w`'s whitespace, the words of the
    fragments concatenate to `w.word`, and the last fragment's word is non-empty if `w.word` is -/
def Refines (w : Word) (fs : List Word) : Prop :=
  ∃ pre l, fs = pre ++ [l] ∧ l.ws = w.ws ∧ wordsText pre ++ l.word = w.word ∧ (w.word ≠ [] → l.word ≠ [])

theorem Refines.refl (w : Word) : Refines w [w] := ⟨[], w, rfl, rfl, rfl, fun h => h⟩

theorem Refines.text_eq {w : Word} {fs : List Word} (h : Refines w fs) : wordsText fs = w.word ++ w.ws := by
  obtain ⟨pre, l, h1, h2, h3, _⟩ := h
  rw [h1]; simp [← h3, h2]

/-- a list of words, each refined into fragments: `Piecewise Refines` (`Piecewise.refinesAll`) -/
inductive RefinesAll : List Word → List Word → Prop
  | nil : RefinesAll [] []
  | cons {w ws fs rest} : Refines w fs → RefinesAll ws rest → RefinesAll (w :: ws) (fs ++ rest)

theorem Piecewise.refinesAll {R : Word → List Word → Prop} {ws fs : List Word} (h : Piecewise R ws fs)
    (hR : ∀ w ∈ ws, ∀ ps, R w ps → Refines w ps) : RefinesAll ws fs := by
  induction h with
  | nil => exact .nil
  | cons hw _ ih => exact .cons (hR _ (by simp) _ hw) (ih fun w hw' => hR w (by simp [hw']))

theorem RefinesAll.text_eq {ws fs : List Word} (h : RefinesAll ws fs) : wordsText fs = wordsText ws := by
  induction h with
  | nil => rfl
  | cons hf _ ih => simp [hf.text_eq, ih]

theorem RefinesAll.append {a b fa fb : List Word} (ha : RefinesAll a fa) (hb : RefinesAll b fb) :
    RefinesAll (a ++ b) (fa ++ fb) := by
  induction ha with
  | nil => exact hb
  | cons hf _ ih => rw [List.cons_append, List.append_assoc]; exact RefinesAll.cons hf ih

theorem RefinesAll.append_inv {a b gs : List Word} (h : RefinesAll (a ++ b) gs) :
    ∃ g1 g2, gs = g1 ++ g2 ∧ RefinesAll a g1 ∧ RefinesAll b g2 := by
  induction a generalizing gs with
  | nil => exact ⟨[], gs, rfl, RefinesAll.nil, h⟩
  | cons x xs ih =>
    cases h with
    | cons hf hr =>
      rename_i fs0 rest0
      obtain ⟨g1, g2, e, r1, r2⟩ := ih hr
      exact ⟨fs0 ++ g1, g2, by rw [e, List.append_assoc], RefinesAll.cons hf r1, r2⟩

/-! ### strong refinement -/

/-- strong refinement of a word `w` by fragments `fs`: the words of the fragments concatenate
    to `w.word`, all fragments but the last have no whitespace and a non-empty word, the last
    carries `w`'s whitespace and has a non-empty word if `w` has -/
def RefinesS (w : Word) (fs : List Word) : Prop :=
  ∃ pre l, fs = pre ++ [l] ∧ l.ws = w.ws ∧ (pre.map (·.word)).flatten ++ l.word = w.word ∧
    (∀ f ∈ pre, f.ws = [] ∧ f.word ≠ []) ∧ (w.word ≠ [] → l.word ≠ [])

inductive RefinesAllS : List Word → List Word → Prop
  | nil : RefinesAllS [] []
  | cons {w ws fs rest} : RefinesS w fs → RefinesAllS ws rest → RefinesAllS (w :: ws) (fs ++ rest)

theorem RefinesS.refl (w : Word) : RefinesS w [w] :=
  ⟨[], w, rfl, rfl, rfl, fun _ h => absurd h List.not_mem_nil, fun h => h⟩

theorem RefinesS.ne_nil {w : Word} {fs : List Word} (h : RefinesS w fs) : fs ≠ [] := by
  obtain ⟨pre, l, rfl, _⟩ := h; simp

theorem RefinesS.all_ne {w : Word} {fs : List Word} (h : RefinesS w fs) (hw : w.word ≠ []) :
    ∀ f ∈ fs, f.word ≠ [] := by
  obtain ⟨pre, l, rfl, _, _, h4, h5⟩ := h
  intro f hf
  rcases List.mem_append.mp hf with hf | hf
  · exact (h4 f hf).2
  · simp only [List.mem_singleton] at hf; subst hf; exact h5 hw

theorem Piecewise.refinesAllS {R : Word → List Word → Prop} {ws fs : List Word} (h : Piecewise R ws fs)
    (hR : ∀ w ∈ ws, ∀ ps, R w ps → RefinesS w ps) : RefinesAllS ws fs := by
  induction h with
  | nil => exact .nil
  | cons hw _ ih => exact .cons (hR _ (by simp) _ hw) (ih fun w hw' => hR w (by simp [hw']))

theorem RefinesAllS.append {a b fa fb : List Word} (ha : RefinesAllS a fa) (hb : RefinesAllS b fb) :
    RefinesAllS (a ++ b) (fa ++ fb) := by
  induction ha with
  | nil => exact hb
  | cons hf _ ih => rw [List.cons_append, List.append_assoc]; exact RefinesAllS.cons hf ih

theorem RefinesS.weaken {w : Word} {fs : List Word} (h : RefinesS w fs) : Refines w fs := by
  obtain ⟨pre, l, e1, e2, e3, e4, e5⟩ := h
  exact ⟨pre, l, e1, e2, by rw [wordsText_no_ws pre (fun f hf => (e4 f hf).1), e3], e5⟩

theorem RefinesAllS.weaken {ws fs : List Word} (h : RefinesAllS ws fs) : RefinesAll ws fs := by
  induction h with
  | nil => exact RefinesAll.nil
  | cons hf _ ih => exact RefinesAll.cons hf.weaken ih

/-! ### where a fragment of a refined list comes from -/

theorem RefinesS.of_empty_piece {w : Word} {x y : List Word} {l : Word}
    (h : RefinesS w (x ++ l :: y)) (hl : l.word = []) : w.word = [] ∧ x = [] := by
  have hw : w.word = [] :=
    Classical.byContradiction fun hw => h.all_ne hw l (List.mem_append_right _ List.mem_cons_self) hl
  refine ⟨hw, ?_⟩
  obtain ⟨pre, l0, e, _, e3, e4, _⟩ := h
  cases x with
  | nil => rfl
  | cons f x' =>
    -- `f` is one of the pieces before the last, none of which is empty, yet they concatenate to `[]`
    exfalso
    have hf : f ∈ pre := by
      cases pre with
      | nil => cases x' <;> cases (List.cons.inj e).2
      | cons p ps => exact (List.cons.inj e).1 ▸ List.mem_cons_self
    rw [hw] at e3
    exact (e4 f hf).2
      (List.flatten_eq_nil_iff.mp (List.append_eq_nil_iff.mp e3).1 f.word (List.mem_map_of_mem hf))

theorem RefinesAllS.locate {ws fs : List Word} (h : RefinesAllS ws fs) {a b : List Word} {l : Word}
    (e : fs = a ++ l :: b) :
    ∃ wa w wb fa fl fb, ws = wa ++ w :: wb ∧ RefinesAllS wa fa ∧ RefinesS w (fl ++ l :: fb) ∧ a = fa ++ fl := by
  induction h generalizing a with
  | nil => simp at e
  | @cons w ws ps rest hf hr ih =>
    have inRest : ∀ a', rest = a' ++ l :: b → ∃ wa w' wb fa fl fb, w :: ws = wa ++ w' :: wb ∧
        RefinesAllS wa fa ∧ RefinesS w' (fl ++ l :: fb) ∧ ps ++ a' = fa ++ fl := by
      intro a' e'
      obtain ⟨wa, w', wb, fa, fl, fb, e1, e2, e3, e4⟩ := ih e'
      exact ⟨w :: wa, w', wb, ps ++ fa, fl, fb, by rw [e1]; rfl, RefinesAllS.cons hf e2, e3,
        by rw [e4, List.append_assoc]⟩
    rcases List.append_eq_append_iff.mp e with ⟨a', rfl, e'⟩ | ⟨c', hps, e'⟩
    · exact inRest a' e'
    · cases c' with
      | nil =>
        rw [List.append_nil] at hps
        have := inRest [] e'.symm
        rwa [List.append_nil, hps] at this
      | cons c cs =>
        obtain ⟨rfl, rfl⟩ := List.cons.inj e'
        exact ⟨[], w, ws, [], a, cs, rfl, RefinesAllS.nil, hps ▸ hf, (List.nil_append a).symm⟩

/-! ### the stages -/

theorem splitOne_refines {cw : Char → Nat} {w : Word} {pts : List Nat} (hlt : ∀ i ∈ pts, i < blen w.word)
    {ps : List Word} (h : splitOne cw w pts 0 = some ps) : Refines w ps := by
  obtain ⟨fpre, l, e1, e2, e3, e4, e5, _⟩ := splitOK_pieces (splitOne_ok0 hlt h) hlt (Or.inr rfl)
  exact ⟨fpre, l, e1, e2, by rw [wordsText_no_ws fpre e5]; simpa using e3, e4⟩

theorem splitWords_refines {env : Env} {sp : Splitter} (hr : SplitterInRange env.isAlnum sp)
    {ws sw : List Word} (h : splitWords env sp ws = some sw) : RefinesAll ws sw :=
  (splitWords_piecewise h).refinesAll fun w _ _ hps => splitOne_refines (hr w.word) hps

theorem splitOne_refinesS {env : Env} {sp : Splitter} (hb : Builtin sp) {w : Word} {ps : List Word}
    (h : splitOne env.cw w (sp.points env.isAlnum w.word) 0 = some ps) : RefinesS w ps := by
  obtain ⟨hok, hinc⟩ := splitOne_builtin hb h
  obtain ⟨fpre, l, e1, e2, e3, e4, e5, e6⟩ := splitOK_pieces hok (builtin_inRange hb w.word) (Or.inr rfl)
  exact ⟨fpre, l, e1, e2, by simpa using e3, fun f hf => ⟨e5 f hf, e6 hinc f hf⟩, e4⟩

theorem splitWords_refinesS {env : Env} {sp : Splitter} (hb : Builtin sp) {ws sw : List Word}
    (h : splitWords env sp ws = some sw) : RefinesAllS ws sw :=
  (splitWords_piecewise h).refinesAllS fun _ _ _ hps => splitOne_refinesS hb hps

theorem breakApart_refinesS (w : Word) (hne : w.word ≠ []) :
    RefinesS w (breakApart cw limit w) := by
  have hok := breakApart_ok cw limit w
  have hmem := breakOK_mem hok
  obtain ⟨fpre, l, e1, e2, e3, _⟩ := breakOK_shape cw limit w.ws w.pen _ (breakApart_ne_nil cw limit w hne) hok
  rw [e1] at hmem
  refine ⟨fpre, l, e1, e2, ?_, fun f hf => ⟨(e3 f hf).1, (hmem f (by simp [hf])).2.1⟩,
    fun _ => (hmem l (by simp)).2.1⟩
  simpa [e1] using breakApart_flatten cw limit w

theorem breakWords_refinesS (ws : List Word) (hws : ∀ w ∈ ws, FragOk cw w) :
    RefinesAllS ws (breakWords cw limit ws) := by
  refine (breakWords_piecewise cw limit ws).refinesAllS ?_
  rintro w hw ps rfl
  split
  · next hlt => exact breakApart_refinesS cw limit w ((hws w hw).word_ne_nil hlt)
  · exact RefinesS.refl w

/-! ### every stage keeps the text of the line -/

theorem fragOk_of_piece {cw : Char → Nat} {w p : Word} (hw : FragOk cw w)
    (hwd : p.width = displayWidth cw p.word) (hws : p.ws = [] ∨ p.ws = w.ws) : FragOk cw p := by
  refine ⟨?_, hwd⟩
  rcases hws with e | e
  · simp [e]
  · rw [e]; exact hw.1

theorem splitWords_text {env : Env} {sp : Splitter} (hr : SplitterInRange env.isAlnum sp)
    {ws sw : List Word} (hws : ∀ w ∈ ws, FragOk env.cw w)
    (h : splitWords env sp ws = some sw) :
    wordsText sw = wordsText ws ∧ ∀ w ∈ sw, FragOk env.cw w := by
  refine ⟨(splitWords_refines hr h).text_eq, splitWords_forall h fun w hw ps ha p hp => ?_⟩
  obtain ⟨_, _, _, hwd, _, hend, _⟩ :=
    splitOK_mem (splitOne_ok0 (hr w.word) ha) p hp
  exact fragOk_of_piece (hws w hw) hwd (hend.imp (·.2.1) (·.2.1))

theorem breakWords_text (ws : List Word) (hws : ∀ w ∈ ws, FragOk cw w) :
    wordsText (breakWords cw limit ws) = wordsText ws ∧ ∀ w ∈ breakWords cw limit ws, FragOk cw w := by
  refine ⟨(breakWords_refinesS cw limit ws hws).weaken.text_eq, fun f hf => ?_⟩
  obtain ⟨w, hw, ⟨_, h⟩ | ⟨rfl, _⟩⟩ := mem_breakWords f hf
  · have hm := breakOK_mem (breakApart_ok cw limit w) f h
    exact fragOk_of_piece (hws w hw) hm.1 hm.2.2.2.1
  · exact hws f hw

/-- contiguity invariant: the fragments handed to the wrap algorithm, concatenated with
    their whitespace, are exactly the line; whitespace parts are spaces only; cached widths are
    display widths. -/
theorem pipeline_contig (env : Env) (o : Opts) (hr : SplitterInRange env.isAlnum o.splitter)
    (line : Text) (sw : Nat) (ws : List Word) (h : pipeline env o line sw = some ws) :
    wordsText ws = line ∧ ∀ w ∈ ws, FragOk env.cw w := by
  refine pipeline_ind (P := fun ws => wordsText ws = line ∧ ∀ w ∈ ws, FragOk env.cw w) h ?_ ?_ ?_
  · intro fw sws hfw hs
    obtain ⟨f1, f2⟩ := findWords_text hfw
    obtain ⟨s1, s2⟩ := splitWords_text hr f2 hs
    exact ⟨s1.trans f1, s2⟩
  · intro _ ws hws
    obtain ⟨b1, b2⟩ := breakWords_text env.cw sw ws hws.2
    exact ⟨b1.trans hws.1, b2⟩
  · exact fun ws hws => ⟨hws.1, List.forall_mem_cons.mpr ⟨from_fragOk _ _, hws.2⟩⟩

end TW
