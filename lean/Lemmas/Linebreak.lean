/-
  What `unicode_linebreak::linebreaks` guarantees by construction, for any tables: the reported
  offsets are char boundaries of the text, strictly increasing, at most the byte length, and
  positive if the start-of-text row of the pair table allows no break. Given finite facts about the
  table (`LB7Facts`, `RestartFacts`; checked for the compiled table in LinebreakTable.lean): no
  offset at a space in a text without hard line breaks, and a part of the text between two
  opportunities scans as it does inside the whole. The theorems about the Unicode separator take
  these clauses as hypotheses on `env.opps`.
-/
import TextwrapModel.Linebreak
import Lemmas.Bytes
namespace TW

variable (T : LbTables) (st : Nat) (zw : Bool) (i : Nat)

theorem mem_lbGo_cons {T : LbTables} {st : Nat} {zw : Bool} {i : Nat} {c : Char} {cs : Text} {o : Nat} :
    o ∈ lbGo T st zw i (c :: cs) ↔ (o = i ∧ T.isBreak (T.pair st (T.cls c)) zw = true) ∨
      o ∈ lbGo T (T.next (T.pair st (T.cls c))) (T.cls c == T.zwj) (i + c.utf8Size) cs := by
  simp only [lbGo]
  by_cases h : T.isBreak (T.pair st (T.cls c)) zw = true
  · rw [if_pos h, List.mem_cons, and_iff_left h]
  · rw [if_neg h, or_iff_right fun hb => h hb.2]

theorem lbGo_boundary {T : LbTables} {st : Nat} {zw : Bool} {i : Nat} {s : Text} {o : Nat}
    (ho : o ∈ lbGo T st zw i s) : ∃ l r, s = l ++ r ∧ o = i + blen l := by
  induction s generalizing st zw i with
  | nil =>
    simp only [lbGo] at ho
    split at ho
    · exact ⟨[], [], rfl, List.mem_singleton.mp ho⟩
    · exact absurd ho List.not_mem_nil
  | cons c cs ih =>
    rcases mem_lbGo_cons.mp ho with ⟨h, _⟩ | h
    · exact ⟨[], c :: cs, rfl, h⟩
    · obtain ⟨l, r, hs, hb⟩ := ih h
      exact ⟨c :: l, r, congrArg _ hs, by rw [hb, blen_cons, Nat.add_assoc]⟩

theorem lbGo_ge {T : LbTables} {st : Nat} {zw : Bool} {i : Nat} {s : Text} {o : Nat}
    (ho : o ∈ lbGo T st zw i s) : i ≤ o := by
  obtain ⟨l, _, _, rfl⟩ := lbGo_boundary ho
  exact Nat.le_add_right _ _

theorem lbGo_le {T : LbTables} {st : Nat} {zw : Bool} {i : Nat} {s : Text} {o : Nat}
    (ho : o ∈ lbGo T st zw i s) : o ≤ i + blen s := by
  obtain ⟨l, r, rfl, rfl⟩ := lbGo_boundary ho
  rw [blen_append]
  exact Nat.add_le_add_left (Nat.le_add_right _ _) _

theorem lbGo_pairwise (s : Text) :
    (lbGo T st zw i s).Pairwise (· < ·) := by
  fun_induction lbGo T st zw i s with
  | case1 => exact List.pairwise_singleton _ _
  | case2 => exact List.Pairwise.nil
  | case3 st zw i c cs k val rest _ ih =>
    exact List.pairwise_cons.mpr
      ⟨fun o ho => Nat.lt_of_lt_of_le (Nat.lt_add_of_pos_right c.utf8Size_pos) (lbGo_ge ho), ih⟩
  | case4 _ _ _ _ _ _ _ _ _ ih => exact ih

/-- the one fact about the table needed for positivity: from the start-of-text state no break is
    reported, whatever comes first (a class or end of text) — UAX #14 rule LB2 -/
def NoBreakAtSot (T : LbTables) : Prop := ∀ k, T.allowed (T.pair T.sot k) = false

theorem ownOpps_boundary (T : LbTables) (s : Text) :
    ∀ o ∈ ownOpps T s, ∃ l r, s = l ++ r ∧ blen l = o := by
  intro o ho
  obtain ⟨l, r, hs, hb⟩ := lbGo_boundary ho
  exact ⟨l, r, hs, (hb.trans (Nat.zero_add _)).symm⟩

theorem ownOpps_pairwise (T : LbTables) (s : Text) : (ownOpps T s).Pairwise (· < ·) :=
  lbGo_pairwise T _ _ _ s

theorem ownOpps_le (T : LbTables) (s : Text) : ∀ o ∈ ownOpps T s, o ≤ blen s := by
  intro o ho
  exact Nat.zero_add (blen s) ▸ lbGo_le ho

theorem ownOpps_pos (T : LbTables) (h : NoBreakAtSot T) (s : Text) : ∀ o ∈ ownOpps T s, 0 < o := by
  intro o ho
  cases s with
  | nil => simp [ownOpps, lbGo, LbTables.isBreak, h T.eot] at ho
  | cons c cs =>
    rcases mem_lbGo_cons.mp ho with ⟨_, hb⟩ | ho
    · simp [LbTables.isBreak, h (T.cls c)] at hb
    · exact Nat.lt_of_lt_of_le (Nat.lt_add_of_pos_right c.utf8Size_pos) (lbGo_ge ho)

/-! ### the scan after a prefix -/

theorem lbGo_cons_tail (c : Char) (cs : Text) (o : Nat)
    (ho : i < o) :
    o ∈ lbGo T st zw i (c :: cs) ↔
      o ∈ lbGo T (T.next (T.pair st (T.cls c))) (T.cls c == T.zwj) (i + c.utf8Size) cs := by
  rw [mem_lbGo_cons, or_iff_right fun hb => Nat.ne_of_gt ho hb.1]

theorem lbGo_head {T : LbTables} {st : Nat} {zw : Bool} {i : Nat} {c : Char} {cs : Text}
    (h : i ∈ lbGo T st zw i (c :: cs)) : T.allowed (T.pair st (T.cls c)) = true := by
  rcases mem_lbGo_cons.mp h with ⟨_, hb⟩ | h
  · exact (Bool.and_eq_true_iff.mp hb).1
  · exact absurd (lbGo_ge h) (Nat.not_le.mpr (Nat.lt_add_of_pos_right c.utf8Size_pos))

/-- the scan state after a prefix -/
def lbState (T : LbTables) : Nat → Bool → Text → Nat × Bool
  | st, zw, [] => (st, zw)
  | st, _, c :: cs => lbState T (T.next (T.pair st (T.cls c))) (T.cls c == T.zwj) cs

theorem lbGo_append (A s : Text) (o : Nat)
    (ho : i + blen A ≤ o) :
    o ∈ lbGo T st zw i (A ++ s) ↔
      o ∈ lbGo T (lbState T st zw A).1 (lbState T st zw A).2 (i + blen A) s := by
  induction A generalizing st zw i with
  | nil => rfl
  | cons a A ih =>
    rw [blen_cons, ← Nat.add_assoc] at ho ⊢
    have hlt : i < o :=
      Nat.lt_of_lt_of_le (Nat.lt_add_of_pos_right a.utf8Size_pos) (Nat.le_trans (Nat.le_add_right _ _) ho)
    rw [List.cons_append, lbGo_cons_tail T st zw i a (A ++ s) o hlt, ih _ _ _ ho]
    rfl

theorem lbState_inv {P : Nat → Prop} (A : Text)
    (hstep : ∀ st, P st → ∀ c ∈ A, P (T.next (T.pair st (T.cls c)))) (h : P st) :
    P (lbState T st zw A).1 := by
  induction A generalizing st zw with
  | nil => exact h
  | cons a A ih =>
    exact ih _ _ (fun st h c hc => hstep st h c (List.mem_cons_of_mem _ hc)) (hstep st h a List.mem_cons_self)

/-! ### LB7 (no break before a space) as a consequence of finite facts about the table

The compiled table allows a break before a space only from the states entered by a hard line break
(classes BK, CR, LF, NL), and those states are entered only by reading a character of such a class.
For a text without such characters the scan therefore never reports an offset at a space. -/

/-- finite facts about a table: `nS` states, `nK` classes, `sp` the class of U+0020, `bad` the
    states from which a break before a space is reported, `badCls` the classes that lead there.
    With `bad` taken to be exactly those states (`lbBadState`) `noSp` holds by definition; what the
    table is asked is `stay`. -/
structure LB7Facts (T : LbTables) (nS nK sp : Nat) (bad badCls : Nat → Bool) : Prop where
  noSp : ∀ st, st < nS → bad st = false → T.allowed (T.pair st sp) = false
  stay : ∀ st, st < nS → ∀ k, k < nK → badCls k = false →
    bad (T.next (T.pair st k)) = false ∧ T.next (T.pair st k) < nS
  clsLt : ∀ c, T.cls c < nK
  sot : T.sot < nS ∧ bad T.sot = false

theorem lbGo_noSpace {nS nK sp : Nat} {bad badCls : Nat → Bool}
    (F : LB7Facts T nS nK sp bad badCls) (s : Text)
    (hst : st < nS ∧ bad st = false) (hs : ∀ c ∈ s, badCls (T.cls c) = false) :
    ∀ a c b, s = a ++ c :: b → (i + blen a) ∈ lbGo T st zw i s → T.cls c ≠ sp := by
  rintro a c b rfl ho hsp
  rw [lbGo_append T st zw i a (c :: b) _ (Nat.le_refl _)] at ho
  have hS := lbState_inv T st zw (P := fun st => st < nS ∧ bad st = false) a
    (fun st h x hx => (F.stay st h.1 _ (F.clsLt x) (hs x (List.mem_append_left _ hx))).symm) hst
  have hb := lbGo_head ho
  rw [hsp, F.noSp _ hS.1 hS.2] at hb
  exact Bool.false_ne_true hb

/-! ### restart invariance: a part of the text between two opportunities, analysed alone -/

/-- restart invariance of a pair table: wherever a break is allowed, the scan continues as if the
    text started there -/
def RestartInv (T : LbTables) (nS nK : Nat) : Prop :=
  ∀ st, st < nS → ∀ k, k < nK → T.allowed (T.pair st k) = true → T.next (T.pair st k) = T.next (T.pair T.sot k)

theorem lbGo_shift (i d : Nat) (s : Text) :
    lbGo T st zw (i + d) s = (lbGo T st zw i s).map (· + d) := by
  induction s generalizing st zw i with
  | nil => simp only [lbGo, apply_ite (List.map (· + d)), List.map_cons, List.map_nil]
  | cons c cs ih => simp only [lbGo, Nat.add_right_comm i d, ih, apply_ite (List.map (· + d)), List.map_cons]

structure RestartFacts (T : LbTables) (nS nK : Nat) : Prop where
  inv : RestartInv T nS nK
  stay : ∀ st, st < nS → ∀ k, k < nK → T.next (T.pair st k) < nS
  clsLt : ∀ c, T.cls c < nK
  sot : T.sot < nS

/-- restart invariance of `linebreaks`: if an opportunity is reported at the start of a suffix,
    the opportunities inside the suffix are those of the suffix analysed on its own — a word of the
    Unicode separator keeps its (lack of) inner opportunities when it is wrapped again alone -/
theorem ownOpps_restart (T : LbTables) {nS nK : Nat} (F : RestartFacts T nS nK) (A : Text) (c : Char) (l : Text)
    (h : blen A ∈ ownOpps T (A ++ c :: l)) (o : Nat) (ho : blen A < o) :
    o ∈ ownOpps T (A ++ c :: l) ↔ o - blen A ∈ ownOpps T (c :: l) := by
  unfold ownOpps at h ⊢
  have hA := lbGo_append T T.sot false 0 A (c :: l)
  simp only [Nat.zero_add] at hA
  rw [hA (blen A) (Nat.le_refl _)] at h
  rw [hA o (Nat.le_of_lt ho)]
  generalize hst : lbState T T.sot false A = S at h ⊢
  have hlt : S.1 < nS := by
    rw [← hst]; exact lbState_inv T _ _ A (fun st h x _ => F.stay st h _ (F.clsLt x)) F.sot
  have hnext := F.inv S.1 hlt (T.cls c) (F.clsLt c) (lbGo_head h)
  rw [lbGo_cons_tail T S.1 S.2 (blen A) c l o ho, hnext]
  have hsh : lbGo T T.sot false (blen A) (c :: l) = (lbGo T T.sot false 0 (c :: l)).map (· + blen A) := by
    rw [← lbGo_shift, Nat.zero_add]
  rw [← lbGo_cons_tail T T.sot false (blen A) c l o ho, hsh, List.mem_map]
  exact ⟨fun ⟨x, hx, e⟩ => by rwa [← e, Nat.add_sub_cancel], fun h => ⟨_, h, Nat.sub_add_cancel (Nat.le_of_lt ho)⟩⟩

theorem lbGo_prefix (l B : Text) (o : Nat)
    (ho : o < i + blen l) : o ∈ lbGo T st zw i (l ++ B) ↔ o ∈ lbGo T st zw i l := by
  induction l generalizing st zw i with
  | nil =>
    rw [blen_nil, Nat.add_zero] at ho
    exact ⟨fun h => absurd (lbGo_ge h) (Nat.not_le.mpr ho), fun h => absurd (lbGo_ge h) (Nat.not_le.mpr ho)⟩
  | cons a l ih =>
    rw [blen_cons, ← Nat.add_assoc] at ho
    rw [List.cons_append, mem_lbGo_cons, mem_lbGo_cons, ih _ _ _ ho]

theorem ownOpps_prefix (l B : Text) (o : Nat) (ho : o < blen l) :
    o ∈ ownOpps T (l ++ B) ↔ o ∈ ownOpps T l :=
  lbGo_prefix T _ _ 0 l B o (by rwa [Nat.zero_add])

end TW
