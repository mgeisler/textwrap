/-
  `lcp` is the meet of the prefix order on texts, and the mismatch loop that `unfill` and `dedent`
  share computes it.
-/
import TextwrapModel.Indent
import TextwrapModel.Refill
import Lemmas.Bytes
namespace TW

def lcp : Text → Text → Text
  | a :: as, b :: bs => if a = b then a :: lcp as bs else []
  | _, _ => []

theorem prefix_lcp_iff {w a b : Text} : w <+: lcp a b ↔ w <+: a ∧ w <+: b := by
  induction a generalizing w b with
  | nil => simp only [lcp, List.prefix_nil]; exact ⟨fun h => ⟨h, h ▸ List.nil_prefix⟩, (·.1)⟩
  | cons x xs ih =>
    cases b with
    | nil => simp only [lcp, List.prefix_nil]; exact ⟨fun h => ⟨h ▸ List.nil_prefix, h⟩, (·.2)⟩
    | cons y ys =>
      cases w with
      | nil => simp
      | cons c cs =>
        by_cases hxy : x = y
        · subst hxy
          simp only [lcp, if_true, List.cons_prefix_cons, ih]
          exact ⟨fun ⟨h, h1, h2⟩ => ⟨⟨h, h1⟩, h, h2⟩, fun ⟨⟨h, h1⟩, _, h2⟩ => ⟨h, h1, h2⟩⟩
        · simp only [lcp, hxy, if_false, List.prefix_nil, List.cons_prefix_cons]
          exact ⟨nofun, fun ⟨⟨h, _⟩, h', _⟩ => absurd (h ▸ h') hxy⟩

theorem lcp_prefix_left (a b : Text) : lcp a b <+: a := (prefix_lcp_iff.mp (List.prefix_refl _)).1
theorem lcp_prefix_right (a b : Text) : lcp a b <+: b := (prefix_lcp_iff.mp (List.prefix_refl _)).2

theorem lcp_of_prefix {a b : Text} (h : b <+: a) : lcp a b = b :=
  (lcp_prefix_right a b).eq_of_length_le (prefix_lcp_iff.mpr ⟨h, List.prefix_refl _⟩).length_le

theorem lcp_append_left (p a b : Text) : lcp (p ++ a) (p ++ b) = p ++ lcp a b := by
  induction p with
  | nil => rfl
  | cons c cs ih => simp only [List.cons_append, lcp, if_true, ih]

/-- the longest common prefix of a list of texts: `dedent`'s margin and `unfill`'s subsequent indent;
    the new line is the first argument of `lcp`, as in their loops (`zipMismatch line prefix`) -/
def lcpAll : List Text → Text
  | [] => []
  | m :: ms => ms.foldl (fun acc w => lcp w acc) m

theorem lcpAll_cons_cons (m x : Text) (r : List Text) : lcpAll (m :: x :: r) = lcpAll (lcp x m :: r) := rfl

theorem prefix_lcpAll_iff {v : Text} {xs : List Text} (h : xs ≠ []) : v <+: lcpAll xs ↔ ∀ x ∈ xs, v <+: x := by
  obtain ⟨m, ms, rfl⟩ := List.exists_cons_of_ne_nil h
  clear h
  induction ms generalizing m with
  | nil => simp [lcpAll]
  | cons x r ih =>
    simp only [lcpAll_cons_cons, ih, prefix_lcp_iff, List.forall_mem_cons]
    exact ⟨fun ⟨⟨h1, h2⟩, h3⟩ => ⟨h2, h1, h3⟩, fun ⟨h2, h1, h3⟩ => ⟨⟨h1, h2⟩, h3⟩⟩

theorem lcpAll_const {m : Text} {xs : List Text} (hne : xs ≠ []) (h : ∀ x ∈ xs, x = m) : lcpAll xs = m := by
  obtain ⟨x, hx⟩ := List.exists_mem_of_ne_nil xs hne
  have h1 : lcpAll xs <+: m := h x hx ▸ (prefix_lcpAll_iff hne).mp (List.prefix_refl _) x hx
  have h2 : m <+: lcpAll xs := (prefix_lcpAll_iff hne).mpr fun y hy => (h y hy).symm ▸ List.prefix_refl y
  exact h1.eq_of_length_le h2.length_le

theorem lcpAll_map_append (p : Text) {xs : List Text} (h : xs ≠ []) :
    lcpAll (xs.map (p ++ ·)) = p ++ lcpAll xs := by
  obtain ⟨m, ms, rfl⟩ := List.exists_cons_of_ne_nil h
  clear h
  induction ms generalizing m with
  | nil => rfl
  | cons x r ih =>
    rw [List.map_cons, List.map_cons, lcpAll_cons_cons, lcp_append_left, lcpAll_cons_cons]
    exact ih (lcp x m)

theorem all_of_prefix {p : Char → Bool} {a b : Text} (h : a <+: b) (hb : b.all p = true) : a.all p = true :=
  List.all_eq_true.mpr fun c hc => List.all_eq_true.mp hb c (h.subset hc)

theorem prefix_takeWhile_iff {p : Char → Bool} {w l : Text} :
    w <+: l.takeWhile p ↔ w.all p = true ∧ w <+: l := by
  constructor
  · exact fun h => ⟨all_of_prefix h List.all_takeWhile, h.trans (List.takeWhile_prefix p)⟩
  · rintro ⟨hw, t, rfl⟩
    rw [List.takeWhile_append_of_pos (List.all_eq_true.mp hw)]
    exact List.prefix_append _ _

/-- `dedent`'s margin (`p` = whitespace) and `unfill`'s subsequent indent (`p` = the prefix characters) are
    both of this form -/
theorem prefix_lcpAll_takeWhile_iff {p : Char → Bool} {w : Text} {ls : List Text} (h : ls ≠ []) :
    w <+: lcpAll (ls.map (·.takeWhile p)) ↔ w.all p = true ∧ ∀ l ∈ ls, w <+: l := by
  rw [prefix_lcpAll_iff (mt List.map_eq_nil_iff.mp h)]
  simp only [List.forall_mem_map, prefix_takeWhile_iff]
  obtain ⟨l0, h0⟩ := List.exists_mem_of_ne_nil ls h
  exact ⟨fun hw => ⟨(hw l0 h0).1, fun l hl => (hw l hl).2⟩, fun hw l hl => ⟨hw.1, hw.2 l hl⟩⟩

theorem lcpAll_takeWhile_all (p : Char → Bool) (ls : List Text) : (lcpAll (ls.map (·.takeWhile p))).all p = true := by
  cases ls with
  | nil => rfl
  | cons b r => exact ((prefix_lcpAll_takeWhile_iff (List.cons_ne_nil b r)).mp (List.prefix_refl _)).1

theorem blen_lt_of_prefix {a b : Text} (h : a <+: b) (hne : a ≠ b) : blen a < blen b := by
  obtain ⟨t, rfl⟩ := h
  cases t with
  | nil => simp at hne
  | cons c cs => have := c.utf8Size_pos; simp only [blen_append, blen_cons]; omega

theorem blen_le_of_prefix {a b : Text} (h : a <+: b) : blen a ≤ blen b := by
  obtain ⟨t, rfl⟩ := h
  rw [blen_append]
  exact Nat.le_add_right _ _

theorem sliceFrom?_prefix {p line : Text} (h : p <+: line) : sliceFrom? line (blen p) = some (line.drop p.length) := by
  obtain ⟨t, rfl⟩ := h
  rw [sliceFrom?_append]; simp

theorem zipMismatchLine_eq_zipMismatch : zipMismatchLine = zipMismatch := by
  funext a b
  induction a generalizing b with
  | nil => rfl
  | cons x xs ih => cases b <;> simp [zipMismatchLine, zipMismatch, ih]

theorem zipMismatch_eq (a b : Text) :
    zipMismatch a b = if lcp a b = a ∨ lcp a b = b then none else some (lcp a b) := by
  fun_induction zipMismatch a b with
  | case1 b => simp [lcp]
  | case2 a => simp [lcp]
  | case3 x xs ys ih =>
    simp only [lcp, if_true, ih, List.cons.injEq, true_and]
    split <;> rfl
  | case4 x xs y ys hxy => simp [lcp, hxy]

end TW
