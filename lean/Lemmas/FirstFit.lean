/-
  Lemmas about `wrap_first_fit`, for any number type (no order or arithmetic laws): nothing is
  lost, the lines are greedy (`GreedyLines`) and the greedy arrangement is unique; first for the
  loop `ffGo` from any state (line number, current line, its accumulated width; uniqueness: from
  an empty line), then for `wrap_first_fit` itself, which is the loop from `(0, [], 0)`.
  The notions come first, each in a section that declares only the classes it uses (an `omit … in`
  in front of every lemma is slow to check).
-/
import TextwrapModel.Algo
namespace TW

section
variable {α : Type} [Add α] [LT α] {β : Type} (m : β → Frag α)

/-- from accumulated width `acc`, every listed fragment fits (`first`: the line's first fragment
    is exempt — it is placed unconditionally) -/
def fitsFrom (lw : α) : α → Bool → List β → Prop
  | _, _, [] => True
  | acc, first, f :: fs =>
    (first = true ∨ ¬ (lw < acc + (m f).w + (m f).pen)) ∧
      fitsFrom lw (acc + ((m f).w + (m f).ws)) false fs

theorem fitsFrom_append_singleton {lw acc : α} {first : Bool} {l : List β} {f : β} :
    fitsFrom m lw acc first (l ++ [f]) ↔
      fitsFrom m lw acc first l ∧
        ((first = true ∧ l = []) ∨
          ¬ (lw < l.foldl (fun acc f => acc + ((m f).w + (m f).ws)) acc + (m f).w + (m f).pen)) := by
  induction l generalizing acc first with
  | nil => simp [fitsFrom]
  | cons g gs ih =>
    simp only [List.cons_append, fitsFrom, ih, List.foldl_cons, and_assoc, reduceCtorEq, and_false,
      false_and, false_or]

end

section
variable {α : Type} [Add α] [LT α] [Zero α] {β : Type}
variable (m : β → Frag α) (lws : List α) (dflt : α)

/-- `width` of `wrap_first_fit` after the fragments `l` of one line, summed in the loop's order (no
    law of addition is assumed) -/
def lineAcc (l : List β) : α := l.foldl (fun acc f => acc + ((m f).w + (m f).ws)) 0

def lineFits (lw : α) (l : List β) : Prop := fitsFrom m lw 0 true l

theorem lineFits_singleton (lw : α) (f : β) : lineFits m lw [f] := ⟨.inl rfl, trivial⟩

theorem lineFits_append_singleton {lw : α} {l : List β} {f : β} :
    lineFits m lw (l ++ [f]) ↔
      lineFits m lw l ∧ (l = [] ∨ ¬ (lw < lineAcc m l + (m f).w + (m f).pen)) := by
  unfold lineFits lineAcc
  rw [fitsFrom_append_singleton]
  simp

/-- the lines are consistent with greedy filling: within a line every fragment but the first
    fits; the first fragment of the next line would not have fitted. `k` = index of the first
    listed line. An empty next line asks nothing: first-fit returns none (`ffGo_nonempty`), and
    `ffGo_unique` speaks of non-empty lines. -/
def GreedyLines : Nat → List (List β) → Prop
  | _, [] => True
  | k, [l] => lineFits m (lws.getD k dflt) l
  | k, l :: l2 :: rest =>
    lineFits m (lws.getD k dflt) l ∧
    (match l2 with
     | [] => True
     | g :: _ => lws.getD k dflt < lineAcc m l + (m g).w + (m g).pen) ∧
    GreedyLines (k + 1) (l2 :: rest)

theorem GreedyLines_cons {k : Nat} {l : List β} {ls : List (List β)} :
    GreedyLines m lws dflt k (l :: ls) ↔
      lineFits m (lws.getD k dflt) l ∧
      (match ls.head? with
        | some (g :: _) => lws.getD k dflt < lineAcc m l + (m g).w + (m g).pen
        | _ => True) ∧
      GreedyLines m lws dflt (k + 1) ls := by
  cases ls with
  | nil => exact ⟨fun h => ⟨h, trivial, trivial⟩, And.left⟩
  | cons l2 rest => cases l2 <;> exact Iff.rfl

theorem GreedyLines.line_fits {m : β → Frag α} {lws : List α} {dflt : α} {k : Nat} {ls : List (List β)}
    (h : GreedyLines m lws dflt k ls) :
    ∀ i l, ls[i]? = some l → lineFits m (lws.getD (k + i) dflt) l := by
  induction ls generalizing k with
  | nil => intro i l hl; cases hl
  | cons a r ih =>
    obtain ⟨h1, _, h3⟩ := (GreedyLines_cons m lws dflt).mp h
    intro i l hl
    cases i with
    | zero => exact Option.some.inj hl ▸ h1
    | succ i => exact Nat.add_right_comm k 1 i ▸ ih h3 i l hl

end

section
variable {α : Type} [Add α] [LT α] [Zero α] [DecidableRel (α := α) (· < ·)] {β : Type}
variable (m : β → Frag α) (lws : List α) (dflt : α)

theorem ffGo_flatten (k : Nat) (cur : List β) (w : α) (fs : List β) :
    (ffGo m lws dflt k cur w fs).flatten = cur ++ fs := by
  fun_induction ffGo m lws dflt k cur w fs with
  | case1 => simp
  | case2 k cur w f fs lw hb ih => simp [ih]
  | case3 k cur w f fs lw hb ih => simp [ih]

theorem ffGo_nonempty (k : Nat) (cur : List β) (w : α) (fs : List β) (h : cur ≠ [] ∨ fs ≠ []) :
    ∀ l ∈ ffGo m lws dflt k cur w fs, l ≠ [] := by
  fun_induction ffGo m lws dflt k cur w fs with
  | case1 => exact List.forall_mem_singleton.mpr (h.resolve_right fun h => h rfl)
  | case2 k cur w f fs lw hb ih =>
    exact List.forall_mem_cons.mpr ⟨fun e => hb.2 (e ▸ rfl), ih (Or.inl (List.cons_ne_nil _ _))⟩
  | case3 k cur w f fs lw hb ih => exact ih (Or.inl (by simp))

theorem foldl_acc (acc : α) (l : List β) (f : β) :
    List.foldl (fun acc f => acc + ((m f).w + (m f).ws)) acc (l ++ [f]) =
      List.foldl (fun acc f => acc + ((m f).w + (m f).ws)) acc l + ((m f).w + (m f).ws) := by
  simp [List.foldl_append]

theorem ffGo_head (k : Nat) (cur : List β) (w : α) (fs : List β) :
    ∃ x rest, ffGo m lws dflt k cur w fs = (cur ++ x) :: rest := by
  fun_induction ffGo m lws dflt k cur w fs with
  | case1 => exact ⟨[], [], by rw [List.append_nil]⟩
  | case2 k cur w f fs lw hb ih => exact ⟨[], _, by rw [List.append_nil]⟩
  | case3 k cur w f fs lw hb ih =>
    obtain ⟨x, rest, h⟩ := ih
    exact ⟨f :: x, rest, by rw [h, List.append_assoc, List.singleton_append]⟩

theorem ffGo_greedy (k : Nat) (cur : List β) (w : α) (fs : List β)
    (hw : w = lineAcc m cur) (hc : lineFits m (lws.getD k dflt) cur) :
    GreedyLines m lws dflt k (ffGo m lws dflt k cur w fs) := by
  fun_induction ffGo m lws dflt k cur w fs with
  | case1 => exact hc
  | case2 k cur w f fs lw hb ih =>
    -- a break: `cur` is a line, and `f`, which did not fit, opens the next
    subst hw
    obtain ⟨x, rest, hx⟩ := ffGo_head m lws dflt (k + 1) [f] (0 + ((m f).w + (m f).ws)) fs
    rw [GreedyLines_cons, hx]
    exact ⟨hc, hb.1, hx ▸ ih rfl (lineFits_singleton m _ f)⟩
  | case3 k cur w f fs lw hb ih =>
    subst hw
    refine ih (foldl_acc m 0 cur f).symm ((lineFits_append_singleton m).mpr ⟨hc, ?_⟩)
    exact Classical.or_iff_not_imp_left.mpr fun hcur hlt => hb ⟨hlt, by simpa using hcur⟩

theorem ffGo_append_of_fits (k : Nat) (cur : List β) (w : α) (x fs : List β) {first : Bool}
    (hfirst : first = true → cur = []) (h : fitsFrom m (lws.getD k dflt) w first x) :
    ffGo m lws dflt k cur w (x ++ fs) =
      ffGo m lws dflt k (cur ++ x) (x.foldl (fun acc f => acc + ((m f).w + (m f).ws)) w) fs := by
  induction x generalizing cur w first with
  | nil => simp
  | cons y ys ih =>
    obtain ⟨h1, h2⟩ := h
    rw [List.cons_append, ffGo, if_neg fun hb => h1.elim (fun e => hb.2 (hfirst e ▸ rfl)) (· hb.1),
      ih (first := false) _ _ nofun h2]
    simp

theorem ffGo_unique (k : Nat) (p : List (List β)) (hp : p ≠ []) (hne : ∀ l ∈ p, l ≠ [])
    (hg : GreedyLines m lws dflt k p) : ffGo m lws dflt k [] 0 p.flatten = p := by
  induction p generalizing k with
  | nil => exact absurd rfl hp
  | cons l rest ih =>
    obtain ⟨hfit, hnext, hrest⟩ := (GreedyLines_cons m lws dflt).mp hg
    -- the fragments of the first line fit: the loop takes them onto it
    rw [List.flatten_cons, ffGo_append_of_fits m lws dflt k [] 0 l _ (fun _ => rfl) hfit]
    cases rest with
    | nil => rfl
    | cons l2 rest =>
      obtain ⟨g, gs, rfl⟩ := List.exists_cons_of_ne_nil (hne l2 (List.mem_cons_of_mem _ List.mem_cons_self))
      -- the next line begins with a fragment that does not fit: a break, and `g` opens line `k + 1`
      have := ih (k + 1) (List.cons_ne_nil _ _) (fun l hl => hne l (List.mem_cons_of_mem _ hl)) hrest
      rw [List.flatten_cons, List.cons_append, ffGo, if_neg fun h => h.2 rfl, List.nil_append] at this
      rw [List.flatten_cons, List.cons_append, ffGo,
        if_pos ⟨hnext, fun h => hne l List.mem_cons_self (List.isEmpty_iff.mp h)⟩, this, List.nil_append]

theorem ffGo_congr_lws (l1 l2 : List α) (d1 d2 : α)
    (h : ∀ k, l1.getD k d1 = l2.getD k d2) (k : Nat) (cur : List β) (w : α) (fs : List β) :
    ffGo m l1 d1 k cur w fs = ffGo m l2 d2 k cur w fs := by
  induction fs generalizing k cur w with
  | nil => rfl
  | cons f fs ih => simp only [ffGo, h k, ih]

/-! ### `wrap_first_fit` itself: the loop from its initial state -/

theorem wrapFirstFit_flatten (frs : List β) : (wrapFirstFit m frs lws).flatten = frs := by
  simp [wrapFirstFit, ffGo_flatten]

theorem wrapFirstFit_nonempty (frs : List β) (h : frs ≠ []) : ∀ l ∈ wrapFirstFit m frs lws, l ≠ [] :=
  ffGo_nonempty m lws _ 0 [] 0 frs (Or.inr h)

theorem wrapFirstFit_nil : wrapFirstFit m ([] : List β) lws = [[]] := rfl

theorem wrapFirstFit_ne_nil (frs : List β) : wrapFirstFit m frs lws ≠ [] := by
  obtain ⟨x, rest, h⟩ := ffGo_head m lws (defaultLw lws) 0 [] 0 frs
  rw [wrapFirstFit, h]; simp

theorem wrapFirstFit_greedy (frs : List β) : GreedyLines m lws (defaultLw lws) 0 (wrapFirstFit m frs lws) :=
  ffGo_greedy m lws _ 0 [] 0 frs rfl trivial

/-- `frs ≠ []` is needed: for no fragments the result is `[[]]`, while `[]` is a greedy partition
    into non-empty lines as well -/
theorem wrapFirstFit_unique (frs : List β) (p : List (List β)) (hfrs : frs ≠ [])
    (hflat : p.flatten = frs) (hne : ∀ l ∈ p, l ≠ []) (hg : GreedyLines m lws (defaultLw lws) 0 p) :
    p = wrapFirstFit m frs lws := by
  subst hflat
  exact (ffGo_unique m lws _ 0 p (fun h => hfrs (by rw [h]; rfl)) hne hg).symm

theorem wrapFirstFit_of_fits (frs : List β) (h : lineFits m (lws.getD 0 (defaultLw lws)) frs) :
    wrapFirstFit m frs lws = [frs] := by
  rw [wrapFirstFit, ← List.append_nil frs, ffGo_append_of_fits m lws _ 0 [] 0 frs [] (fun _ => rfl) h]
  simp [ffGo]

theorem wrapFirstFit_singleton (f : β) : wrapFirstFit m [f] lws = [[f]] :=
  wrapFirstFit_of_fits m lws [f] (lineFits_singleton m _ f)

end
end TW
