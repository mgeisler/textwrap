/-
  `unfill` in closed form on any text (`unfill_eq`): the two line iterators (`str::lines`,
  `NonEmptyLines`) agree, and the subsequent indent is the longest common prefix of the
  prefix-character runs of the lines after the first.
-/
import Lemmas.Std
import Lemmas.Prefix
namespace TW

/-- `NonEmptyLines` yields exactly the non-empty elements of `str::lines()` (the guard of issue #466) -/
theorem nel_eq_lines (t : Text) :
    (nonEmptyLines t).map Prod.fst = (lines t).filter (fun l => !l.isEmpty) := by
  -- both sides run over the `'\n'`-separated pieces (`linesOf`, `nelGo`); a piece `p` that is not the
  -- last one gives the line `stripCR p`, and `nelGo` skips it exactly when that line is empty
  -- (`stripCR_nil_iff`: `p = []` or `p = [CR]`)
  rw [lines_eq_linesOf]
  unfold nonEmptyLines
  generalize splitLF t = ps
  fun_induction nelGo ps with
  | case1 => rfl
  | case2 p hp => simp [linesOf, hp]
  | case3 p hp => simp [linesOf, hp]
  | case4 p q r ih =>
    rw [List.map_append, ih, linesOf, List.filter_cons]
    by_cases hs : stripCR p = []
    · rcases (stripCR_nil_iff p).mp hs with rfl | rfl
      · simp [stripCR]
      · simp [stripCR, CR]
    · have hp1 : (p.isEmpty || p == [CR]) = false := by simpa [stripCR_nil_iff] using hs
      have hne' : (!(stripCR p).isEmpty) = true := by simpa using hs
      simp only [hp1, hne', if_true]
      unfold stripCR
      by_cases h3 : p.getLast? = some CR <;> simp [h3]

/-! ### prefix detection -/

def prefixOf (l : Text) : Text := l.takeWhile isPrefixChar

/-- refill.rs:76-84; the left-hand side is, word for word, what unfolding `unfillScan` leaves -/
theorem narrowSub_eq (pre sub : Text) :
    (if blen pre < blen (match zipMismatch pre sub with | some p => p | none => sub) then pre
     else match zipMismatch pre sub with | some p => p | none => sub) = lcp pre sub := by
  have h1 := lcp_prefix_left pre sub
  have h2 := lcp_prefix_right pre sub
  rw [zipMismatch_eq]
  by_cases hc : lcp pre sub = pre ∨ lcp pre sub = sub
  · simp only [if_pos hc]
    rcases hc with hc | hc
    · rw [hc] at h2 ⊢
      by_cases he : pre = sub
      · rw [he, ite_self]
      · exact if_pos (blen_lt_of_prefix h2 he)
    · rw [hc] at h1 ⊢
      exact if_neg (Nat.not_lt.mpr (blen_le_of_prefix h1))
  · simp only [if_neg hc]
    exact if_neg (Nat.not_lt.mpr (blen_le_of_prefix h1))

def maxWidth (cw : Char → Nat) (w : Nat) (ls : List Text) : Nat :=
  ls.foldl (fun m l => max m (displayWidth cw l)) w

variable (cw : Char → Nat)

theorem maxWidth_le_iff (w : Nat) (ls : List Text) (n : Nat) :
    maxWidth cw w ls ≤ n ↔ w ≤ n ∧ ∀ l ∈ ls, displayWidth cw l ≤ n := by
  induction ls generalizing w with
  | nil => simp [maxWidth]
  | cons a r ih =>
    have e : maxWidth cw w (a :: r) = maxWidth cw (max w (displayWidth cw a)) r := rfl
    rw [e, ih, List.forall_mem_cons, Nat.max_le]
    exact and_assoc

/-- one turn of the first loop (refill.rs:66-86) -/
theorem unfillScan_cons (l : Text) (r : List Text) (idx w : Nat) (ini sub : Text) :
    unfillScan cw (l :: r) idx (w, ini, sub) =
      unfillScan cw r (idx + 1)
        (if idx = 0 then (max w (displayWidth cw l), prefixOf l, sub)
         else if idx = 1 then (max w (displayWidth cw l), ini, prefixOf l)
         else (max w (displayWidth cw l), ini, lcp (prefixOf l) sub)) := by
  rw [unfillScan, take_trimStart]
  exact congrArg (fun s => unfillScan cw r (idx + 1) (if idx = 0 then _ else if idx = 1 then _ else (_, ini, s)))
    (narrowSub_eq (prefixOf l) sub)

theorem unfillScan_tail (ls : List Text) (idx : Nat) (hidx : 2 ≤ idx) (w : Nat)
    (ini sub : Text) :
    unfillScan cw ls idx (w, ini, sub) =
      (maxWidth cw w ls, ini, lcpAll (sub :: ls.map prefixOf)) := by
  induction ls generalizing idx w sub with
  | nil => rfl
  | cons l r ih =>
    rw [unfillScan_cons, if_neg (Nat.ne_of_gt (Nat.lt_of_lt_of_le Nat.zero_lt_two hidx)),
      if_neg (Nat.ne_of_gt (Nat.lt_of_lt_of_le Nat.one_lt_two hidx)), ih (idx + 1) (Nat.le_succ_of_le hidx)]
    rfl

/-- of the lines after the first -/
def subIndent (ls : List Text) : Text := lcpAll (ls.map prefixOf)

theorem unfillScan_eq (ls : List Text) :
    unfillScan cw ls 0 (0, [], []) =
      (maxWidth cw 0 ls, (ls.head?.map prefixOf).getD [], subIndent ls.tail) := by
  match ls with
  | [] => rfl
  | [a] =>
    rw [unfillScan_cons]
    rfl
  | a :: b :: r =>
    rw [unfillScan_cons, unfillScan_cons, if_pos rfl, if_neg Nat.one_ne_zero, if_pos rfl,
      unfillScan_tail cw r 2 (Nat.le_refl 2)]
    rfl

theorem subIndent_prefix (ls : List Text) : ∀ l ∈ ls, subIndent ls <+: l := fun l hl =>
  ((prefix_lcpAll_takeWhile_iff (List.ne_nil_of_mem hl)).mp (List.prefix_refl _)).2 l hl

theorem subIndent_all (ls : List Text) : (subIndent ls).all isPrefixChar = true :=
  lcpAll_takeWhile_all isPrefixChar ls

/-! ### the second loop -/

theorem unfillJoin_tail (ini sub : Text) (nel : List (Text × Option LineEnding)) (idx : Nat) (hidx : idx ≠ 0)
    (acc : Text) (det : Option LineEnding) (h : ∀ p ∈ nel, sub <+: p.1) :
    unfillJoin ini sub nel idx acc det =
      some (acc ++ ((nel.map (·.1)).map fun l => SP :: l.drop sub.length).flatten,
        (nel.map (·.2)).foldl detStep det) := by
  induction nel generalizing idx acc det with
  | nil => simp [unfillJoin]
  | cons p rest ih =>
    simp only [unfillJoin, hidx, if_false, sliceFrom?_prefix (h p (by simp)), Option.map_some]
    rw [ih (idx + 1) (Nat.succ_ne_zero idx) _ _ (fun q hq => h q (List.mem_cons_of_mem p hq))]
    simp

def unfillBody (ini sub : Text) : List Text → Text
  | [] => []
  | l :: r => l.drop ini.length ++ (r.map fun x => SP :: x.drop sub.length).flatten

theorem mem_unfillBody {ini sub : Text} {ls : List Text} {c : Char} (hc : c ∈ unfillBody ini sub ls) :
    c = SP ∨ ∃ l ∈ ls, c ∈ l := by
  cases ls with
  | nil => simp [unfillBody] at hc
  | cons a r =>
    simp only [unfillBody, List.mem_append, List.mem_flatten, List.mem_map] at hc
    rcases hc with hc | ⟨_, ⟨x, hx, rfl⟩, hc⟩
    · exact Or.inr ⟨a, by simp, List.mem_of_mem_drop hc⟩
    · rcases List.mem_cons.mp hc with rfl | hc
      · exact Or.inl rfl
      · exact Or.inr ⟨x, by simp [hx], List.mem_of_mem_drop hc⟩

theorem unfillJoin_eq (ini sub : Text) (nel : List (Text × Option LineEnding))
    (h0 : ∀ l ∈ (nel.map (·.1)).head?, ini <+: l) (h : ∀ l ∈ (nel.map (·.1)).tail, sub <+: l) :
    unfillJoin ini sub nel 0 [] none =
      some (unfillBody ini sub (nel.map (·.1)), (nel.map (·.2)).foldl detStep none) := by
  cases nel with
  | nil => rfl
  | cons p rest =>
    simp only [unfillJoin, if_true, sliceFrom?_prefix (h0 p.1 (by simp))]
    rw [unfillJoin_tail ini sub rest 1 Nat.one_ne_zero _ _ (fun q hq => h q.1 (List.mem_map_of_mem hq))]
    simp [unfillBody]

/-! ### `unfill` in closed form -/

def detected (t : Text) : Option LineEnding := ((nonEmptyLines t).map (·.2)).foldl detStep none

theorem foldl_detStep (d : Option LineEnding) (es : List (Option LineEnding)) :
    es.foldl detStep d =
      if some .lf ∈ d :: es then some .lf else if some .crlf ∈ d :: es then some .crlf else none := by
  induction es generalizing d with
  | nil => rcases d with _ | _ | _ <;> simp
  | cons e es ih =>
    rw [List.foldl_cons, ih]
    rcases d with _ | _ | _ <;> rcases e with _ | _ | _ <;> simp [detStep]

theorem foldl_detStep_eq_crlf_iff (es : List (Option LineEnding)) :
    es.foldl detStep none = some .crlf ↔ (∃ e ∈ es, e ≠ none) ∧ some LineEnding.lf ∉ es := by
  rw [foldl_detStep]
  by_cases h1 : some LineEnding.lf ∈ es
  · simp [h1]
  · by_cases h2 : some LineEnding.crlf ∈ es
    · simpa [h1, h2] using ⟨_, h2, by simp⟩
    · simp only [List.mem_cons, reduceCtorEq, h1, h2, or_self, if_false, false_iff, not_and, Classical.not_not]
      rintro ⟨e, he, hne⟩
      rcases e with _ | _ | _
      · exact absurd rfl hne
      · exact absurd he h1
      · exact absurd he h2

def trailer (t : Text) : Text :=
  match detected t with
  | some le => if endsWith t le.str then le.str else []
  | none => []

/-- so `unfill` never panics: `NonEmptyLines` yields the non-empty elements of `lines()`, and the
    detected indents are prefixes of the lines they are cut off -/
theorem unfill_eq (t : Text) :
    unfill cw t = some
      { text := unfillBody (((lines t).head?.map prefixOf).getD []) (subIndent (lines t).tail)
          ((lines t).filter fun l => !l.isEmpty) ++ trailer t
        width := maxWidth cw 0 (lines t)
        initialIndent := ((lines t).head?.map prefixOf).getD []
        subsequentIndent := subIndent (lines t).tail
        lineEnding := (detected t).getD .lf } := by
  unfold unfill
  simp only [unfillScan_eq]
  rw [unfillJoin_eq, nel_eq_lines]
  · unfold trailer detected
    cases ((nonEmptyLines t).map (·.2)).foldl detStep none with
    | none => simp only [Option.getD_none, List.append_nil]
    | some le => by_cases h : endsWith t le.str = true <;> simp [h]
  · rw [nel_eq_lines]
    cases lines t with
    | nil => simp
    | cons a r =>
      by_cases ha : a = []
      · simp [ha, prefixOf]
      · simp [ha, prefixOf, List.takeWhile_prefix]
  · rw [nel_eq_lines]
    exact fun l hl => subIndent_prefix _ l (List.filter_sublist.tail.subset hl)

/-- a line of `fill`'s output without its indent -/
def BodyOk (s : Text) : Prop :=
  (∃ c r, s = c :: r ∧ isPrefixChar c = false) ∧ LF ∉ s ∧ CR ∉ s

end TW
