/-
  How the fragments of the pipeline end. The pipeline is opened once (`pipeline_ind`); each later
  stage (splitting, force-breaking) refines every word into pieces, so an invariant of the
  fragment list is proved for the words found and shown to survive refinement:
  * `LastOk` survives any refinement (`Refines`, custom splitters in range included);
  * `EmptyFirst` (a fragment with an empty word has only empty text before it) survives strong
    refinement (`RefinesS`: built-in splitters, force-breaking);
  * what every single word satisfies is carried piece by piece.
  Last, the slice of a group whose last fragment is fine does not end in a space.
-/
import Lemmas.PipelineBuiltin
namespace TW

/-! ### the last fragment -/

/-- the last fragment is fine: its word does not end in a space, and if its word is empty there
    is no text before it -/
def LastOk (frs : List Word) : Prop :=
  ∀ pre l, frs = pre ++ [l] → l.word.getLast? ≠ some SP ∧ (l.word = [] → wordsText pre = [])

theorem RefinesAll.lastOk {ws fs : List Word} (h : RefinesAll ws fs) (hws : LastOk ws) : LastOk fs := by
  intro pre l hfs
  rcases List.eq_nil_or_concat ws with rfl | ⟨ys, wl, rfl⟩
  · cases h
    simp at hfs
  · rw [List.concat_eq_append] at h hws
    obtain ⟨hwl, hfirst⟩ := hws ys wl rfl
    -- the last fragment is the last piece `l0` of the last word `wl`
    obtain ⟨g1, g2, rfl, r1, r2⟩ := h.append_inv
    obtain ⟨p0, l0, rfl, -, e2, e3⟩ : Refines wl g2 := by
      cases r2 with
      | cons hf hr => cases hr; simpa using hf
    obtain ⟨rfl, e⟩ := List.append_inj' (hfs.symm.trans (List.append_assoc g1 p0 [l0]).symm) rfl
    obtain rfl := List.singleton_inj.mp e
    refine ⟨?_, fun hl => ?_⟩
    · by_cases hl : l.word = []
      · simp [hl]
      · rwa [← e2, getLast?_append_of_ne_nil _ _ hl] at hwl
    · -- an empty last piece: the last word is empty, so nothing comes before it
      have hwle : wl.word = [] := Classical.byContradiction fun hw => e3 hw hl
      rw [hl, hwle] at e2
      rw [wordsText_append, r1.text_eq, hfirst hwle]
      simpa using e2

theorem LastOk.cons_empty {s : Word} {fs : List Word} (hs : s.word = []) (hsw : s.ws = [])
    (h : LastOk fs) : LastOk (s :: fs) := by
  intro pre l e
  rcases List.cons_eq_append_iff.mp e with ⟨rfl, e'⟩ | ⟨pre', rfl, e'⟩
  · obtain ⟨rfl, -⟩ := List.cons.inj e'
    simp [hs]
  · obtain ⟨h1, h2⟩ := h pre' l e'
    exact ⟨h1, fun hl => by simp [wordsText_cons, hs, hsw, h2 hl]⟩

/-! ### empty words at the beginning only -/

/-- a fragment with an empty word has only empty text before it -/
def EmptyFirst (frs : List Word) : Prop := ∀ a l b, frs = a ++ l :: b → l.word = [] → wordsText a = []

theorem EmptyFirst.cons_empty {s : Word} {fs : List Word} (hs : s.word = []) (hsw : s.ws = [])
    (h : EmptyFirst fs) : EmptyFirst (s :: fs) := by
  intro a l b e hl
  rcases List.cons_eq_append_iff.mp e with ⟨rfl, -⟩ | ⟨a', rfl, e'⟩
  · rfl
  · simp [wordsText_cons, hs, hsw, h a' l b e' hl]

theorem RefinesAllS.emptyFirst {ws fs : List Word} (h : RefinesAllS ws fs) (hws : EmptyFirst ws) :
    EmptyFirst fs := by
  intro a l b e hl
  obtain ⟨wa, w, wb, fa, fl, fb, e1, e2, e3, rfl⟩ := h.locate e
  obtain ⟨hw, rfl⟩ := e3.of_empty_piece hl
  rw [List.append_nil, e2.weaken.text_eq]
  exact hws wa w wb e1 hw

theorem LastOk.of_ends {frs : List Word} (h1 : ∀ f ∈ frs, f.word.getLast? ≠ some SP) (h2 : EmptyFirst frs) :
    LastOk frs :=
  fun pre l e => ⟨h1 l (by simp [e]), h2 pre l [] e⟩

/-! ### the words found -/

theorem findWords_heads {env : Env} {sep : Sep} {line : Text}
    (hc : sep = .unicode → OppsNoSpace (stripAnsi line) (env.opps (stripAnsi line)))
    {fw : List Word} (h : findWords env sep line = some fw) :
    ∃ P : List Text, fw = P.map (Word.from env.cw) ∧ ∀ p ∈ P.tail, ∃ c cs, p = c :: cs ∧ c ≠ SP := by
  cases sep with
  | ascii =>
    simp only [findWords_ascii, Option.some.injEq] at h
    exact ⟨_, h.symm, (asciiGo_cuts0 line).heads⟩
  | unicode =>
    obtain ⟨os, hos, rfl⟩ := findWordsUnicode_some h
    refine ⟨_, rfl, uniGo_heads0 os line fun a c b ha hm => hc rfl a c b ha ?_⟩
    rw [(filterOpps_spec _ _ _ hos).1] at hm
    exact (List.mem_filter.mp (List.mem_filter.mp hm).1).1

theorem words_emptyFirst (cw : Char → Nat) {P : List Text}
    (hheads : ∀ p ∈ P.tail, ∃ c cs, p = c :: cs ∧ c ≠ SP) : EmptyFirst (P.map (Word.from cw)) := by
  intro a l b e hl
  cases a with
  | nil => rfl
  | cons a0 a' =>
    -- a later word comes from a piece that begins with a non-space: it is not empty
    have : l ∈ (P.map (Word.from cw)).tail := by rw [e]; simp
    obtain ⟨p', hp', rfl⟩ := List.mem_map.mp (List.map_tail ▸ this)
    obtain ⟨c, cs, rfl, hc⟩ := hheads p' hp'
    exact absurd hl (trimEndSp_ne_nil_of_head c cs hc)

theorem findWords_ends {env : Env} {sep : Sep} {line : Text}
    (hc : sep = .unicode → OppsNoSpace (stripAnsi line) (env.opps (stripAnsi line)))
    {fw : List Word} (h : findWords env sep line = some fw) :
    (∀ w ∈ fw, FragOk env.cw w ∧ w.word.getLast? ≠ some SP) ∧ EmptyFirst fw := by
  obtain ⟨P, rfl, hheads⟩ := findWords_heads hc h
  refine ⟨fun w hw => ?_, words_emptyFirst env.cw hheads⟩
  obtain ⟨t, _, rfl⟩ := List.mem_map.mp hw
  exact ⟨from_fragOk _ t, trimEndSp_no_trailing t⟩

/-! ### splitting with a built-in splitter -/

/-- no piece ends in a space: all but the last end in `'-'`, the last ends as the word does -/
theorem splitWords_noTrail {env : Env} {sp : Splitter} (hb : Builtin sp) {ws sw : List Word}
    (h : splitWords env sp ws = some sw) (hws : ∀ w ∈ ws, w.word.getLast? ≠ some SP) :
    ∀ p ∈ sw, p.word.getLast? ≠ some SP :=
  splitWords_forall h fun w hw _ hps p hp => by
    by_cases hl : p.word = []
    · simp [hl]
    obtain ⟨pre, post, e, _, _, ⟨⟨_, a, ha⟩, _⟩ | ⟨rfl, _⟩⟩ := splitOne_builtin_mem hb hps p hp
    · have := congrArg List.getLast? ha
      rw [getLast?_append_of_ne_nil _ _ hl] at this
      rw [this]; simp; decide
    · have := hws w hw
      rwa [e, List.append_nil, getLast?_append_of_ne_nil _ _ hl] at this

/-! ### the pipeline -/

section
variable {env : Env} {o : Opts} {line : Text} {sw : Nat} {frs : List Word}

theorem pipeline_lastOk (hr : SplitterInRange env.isAlnum o.splitter)
    (hc : o.sep = .unicode → OppsNoSpace (stripAnsi line) (env.opps (stripAnsi line)))
    (h : pipeline env o line sw = some frs) : LastOk frs := by
  -- `FragOk` rides along: a word is force-broken when its cached width exceeds the limit, and only
  -- that width being its display width shows the word is non-empty (`breakWords_refinesS`)
  refine (pipeline_ind (P := fun frs => (∀ f ∈ frs, FragOk env.cw f) ∧ LastOk frs) h ?_ ?_ ?_).2
  · intro fw sws hfw hs
    obtain ⟨f1, f2⟩ := findWords_ends hc hfw
    exact ⟨(splitWords_text hr (fun w hw => (f1 w hw).1) hs).2,
      (splitWords_refines hr hs).lastOk (LastOk.of_ends (fun w hw => (f1 w hw).2) f2)⟩
  · exact fun _ ws hws => ⟨(breakWords_text env.cw sw ws hws.1).2,
      (breakWords_refinesS env.cw sw ws hws.1).weaken.lastOk hws.2⟩
  · exact fun ws hws => ⟨List.forall_mem_cons.mpr ⟨from_fragOk _ _, hws.1⟩, hws.2.cons_empty rfl rfl⟩

theorem pipeline_lastOk_ascii (env : Env) (o : Opts) (hsep : o.sep = .ascii)
    (hr : SplitterInRange env.isAlnum o.splitter) (line : Text) (sw : Nat) (ws : List Word)
    (h : pipeline env o line sw = some ws) : LastOk ws :=
  pipeline_lastOk hr (fun hu => by rw [hsep] at hu; cases hu) h

theorem pipeline_lastOk_unicode (env : Env) (o : Opts) (hsep : o.sep = .unicode)
    (hr : SplitterInRange env.isAlnum o.splitter) (line : Text)
    (hc : OppsNoSpace (stripAnsi line) (env.opps (stripAnsi line)))
    (sw : Nat) (ws : List Word) (h : pipeline env o line sw = some ws) : LastOk ws :=
  pipeline_lastOk hr (fun _ => hc) h

theorem pipeline_emptyFirst (hb : Builtin o.splitter)
    (hc : o.sep = .unicode → OppsNoSpace (stripAnsi line) (env.opps (stripAnsi line)))
    (h : pipeline env o line sw = some frs) : EmptyFirst frs := by
  refine (pipeline_ind (P := fun frs => (∀ f ∈ frs, FragOk env.cw f) ∧ EmptyFirst frs) h ?_ ?_ ?_).2
  · intro fw sws hfw hs
    obtain ⟨f1, f2⟩ := findWords_ends hc hfw
    exact ⟨(splitWords_text (builtin_inRange hb) (fun w hw => (f1 w hw).1) hs).2,
      (splitWords_refinesS hb hs).emptyFirst f2⟩
  · exact fun _ ws hws => ⟨(breakWords_text env.cw sw ws hws.1).2,
      (breakWords_refinesS env.cw sw ws hws.1).emptyFirst hws.2⟩
  · exact fun ws hws => ⟨List.forall_mem_cons.mpr ⟨from_fragOk _ _, hws.1⟩, hws.2.cons_empty rfl rfl⟩

theorem pipeline_ends_nobreak (hb : Builtin o.splitter) (hbw : o.breakWords = false)
    (hc : o.sep = .unicode → OppsNoSpace (stripAnsi line) (env.opps (stripAnsi line)))
    (h : pipeline env o line sw = some frs) :
    (∀ f ∈ frs, f.word.getLast? ≠ some SP) ∧ EmptyFirst frs := by
  refine ⟨pipeline_ind (P := fun frs => ∀ f ∈ frs, f.word.getLast? ≠ some SP) h ?_
    (fun hb' => by rw [hbw] at hb'; cases hb')
    (fun ws hws => List.forall_mem_cons.mpr ⟨by simp, hws⟩), pipeline_emptyFirst hb hc h⟩
  intro fw sws hfw hs
  exact splitWords_noTrail hb hs fun w hw =>
    ((findWords_ends hc hfw).1 w hw).2

/-- with the ASCII separator also when words are force-broken: no fragment contains a space -/
theorem pipeline_ends_ascii (hsep : o.sep = .ascii) (hb : Builtin o.splitter)
    (h : pipeline env o line sw = some frs) :
    (∀ f ∈ frs, f.word.getLast? ≠ some SP) ∧ EmptyFirst frs :=
  ⟨fun f hf he => (pipeline_unbreakable_ascii hsep hb h f hf).1 (List.mem_of_getLast? he),
    pipeline_emptyFirst hb (fun hu => by rw [hsep] at hu; cases hu) h⟩

end

theorem LastOk.slice_noTrail {g : List Word} (h : LastOk g) : (groupSlice g).getLast? ≠ some SP := by
  unfold groupSlice
  cases hl : g.getLast? with
  | none => simp
  | some last =>
    obtain ⟨ys, rfl⟩ := List.getLast?_eq_some_iff.mp hl
    simp only [List.dropLast_concat]
    obtain ⟨h1, h2⟩ := h ys last rfl
    by_cases hw : last.word = []
    · rw [hw, h2 hw]; simp
    · rw [getLast?_append_of_ne_nil _ _ hw]; exact h1

theorem groupSlice_noTrail {frs : List Word} (h1 : ∀ f ∈ frs, f.word.getLast? ≠ some SP) (h2 : EmptyFirst frs)
    {a g b : List Word} (h : frs = a ++ g ++ b) : (groupSlice g).getLast? ≠ some SP :=
  LastOk.slice_noTrail fun ys last e => ⟨h1 last (by simp [h, e]), fun hw => by
    have := h2 (a ++ ys) last b (by simp [h, e]) hw
    simp only [wordsText_append, List.append_eq_nil_iff] at this
    exact this.2⟩

end TW
