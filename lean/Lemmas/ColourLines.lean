/-
  From related words to related lines: force-breaking, the two line-breaking algorithms and the
  reassembly loop carry the relation between the coloured run and the visible run.
-/
import Lemmas.ColourWords
import Lemmas.HNormPipeline
import Lemmas.WrapLine
namespace TW

open TW.C13

theorem WR.iff {cw : Char → Nat} {w w' : Word} :
    WR cw w w' ↔ w' = stripW w ∧ FragNormal w ∧ FragOk cw w := by
  simp only [WR, FragNormal, FragOk]
  constructor
  · rintro ⟨rfl, a, b, c⟩; exact ⟨rfl, ⟨a, b⟩, b, c⟩
  · rintro ⟨rfl, ⟨a, b⟩, -, c⟩; exact ⟨rfl, a, b, c⟩

theorem allRel_WR {cw : Char → Nat} {ws ws' : List Word} :
    AllRel (WR cw) ws ws' ↔ ws' = ws.map stripW ∧ ∀ w ∈ ws, FragNormal w ∧ FragOk cw w :=
  AllRel.iff_map (f := stripW) (P := fun w => FragNormal w ∧ FragOk cw w) fun _ _ => WR.iff

theorem WR.frag {cw : Char → Nat} {w w' : Word} (h : WR cw w w') {α : Type} [CostNum α] :
    fragOf (α := α) w = fragOf w' := by
  obtain ⟨rfl, _⟩ := h
  simp [fragOf, stripW]

theorem WR.width' {cw : Char → Nat} {w w' : Word} (h : WR cw w w') : w'.width = displayWidth cw w'.word := by
  obtain ⟨rfl, _, _, hw⟩ := h
  simp only [stripW, displayWidth_strip]; exact hw

theorem breakWords_strip (cw : Char → Nat) (limit : Nat) (ws : List Word)
    (h : ∀ w ∈ ws, w.width = displayWidth cw w.word) :
    breakWords cw limit (ws.map stripW) = (breakWords cw limit ws).map stripW := by
  induction ws with
  | nil => rfl
  | cons w r ih =>
    have hw := h w (by simp)
    simp only [List.map_cons, breakWords, List.map_append, ih fun x hx => h x (by simp [hx])]
    congr 1
    show (if limit < w.width then breakApart cw limit (stripW w) else [stripW w]) = _
    split
    · -- a width above the limit is positive, so the word has a visible character
      have hvis : stripAnsi w.word ≠ [] := fun he => by
        have h0 : displayWidth cw w.word = 0 := by rw [← displayWidth_strip, he]; rfl
        omega
      rw [break_strip_commute cw limit w hvis]
    · rfl

theorem breakWords_colour {cw : Char → Nat} (limit : Nat) {ws ws' : List Word} (h : AllRel (WR cw) ws ws') :
    AllRel (WR cw) (breakWords cw limit ws) (breakWords cw limit ws') := by
  obtain ⟨rfl, hok⟩ := allRel_WR.mp h
  rw [breakWords_strip cw limit ws fun w hw => (hok w hw).2.2]
  exact allRel_WR.mpr ⟨rfl, fun p hp => ⟨breakWords_normal cw limit ws (fun w hw => (hok w hw).1) p hp,
    (breakWords_text cw limit ws fun w hw => (hok w hw).2).2 p hp⟩⟩

section Algs
variable {α : Type} [CostNum α]

theorem ffGo_rel {R : Word → Word → Prop} (hR : ∀ a b, R a b → fragOf (α := α) a = fragOf b)
    (lws : List α) (dflt : α) (k : Nat) (width : α) {cur cur' fs fs' : List Word}
    (hc : AllRel R cur cur') (hf : AllRel R fs fs') :
    AllRel (AllRel R) (ffGo (fragOf (α := α)) lws dflt k cur width fs)
      (ffGo (fragOf (α := α)) lws dflt k cur' width fs') := by
  induction hf generalizing k cur cur' width with
  | nil => simp only [ffGo]; exact AllRel.cons hc AllRel.nil
  | cons hab htl ih =>
    simp only [ffGo, hR _ _ hab, hc.isEmpty]
    split
    · exact AllRel.cons hc (ih _ _ (AllRel.cons hab AllRel.nil))
    · exact ih _ _ (hc.append (AllRel.cons hab AllRel.nil))

/-- optimal-fit uses the fragment list only through the numbers, its length, and for slicing -/
theorem ofWith_rel {R : Word → Word → Prop} (m : Word → Frag α) (p : Penalties) (ws ws' : List Word)
    (lws : List α) (rows : List Nat) (hmap : ws.map m = ws'.map m) (hlen : ws.length = ws'.length)
    (h : AllRel R ws ws') :
    match wrapOptimalFitWith m p ws lws rows, wrapOptimalFitWith m p ws' lws rows with
    | .ok a, .ok b => AllRel (AllRel R) a b
    | .overflow, .overflow => True
    | .panic, .panic => True
    | _, _ => False := by
  unfold wrapOptimalFitWith
  simp only [hmap, hlen]
  generalize List.any (dpTable (α := α) _ _ _ _ _ _) _ = overflow
  cases overflow
  · simp only [Bool.false_eq_true, if_false]
    cases backtrackGo _ _ _ with
    | none => trivial
    | some segs =>
      simp only
      generalize segs.reverse = sg
      induction sg with
      | nil => exact AllRel.nil
      | cons x xs ih => exact AllRel.cons ((h.drop x.1).take (x.2 - x.1)) ih
  · trivial

theorem wrapAlg_rel {R : Word → Word → Prop} (hR : ∀ a b, R a b → fragOf (α := α) a = fragOf b)
    (mo : MinimaOracle α) (alg : Alg) (ws ws' : List Word) (lws : List Nat) (h : AllRel R ws ws')
    (G : List (List Word)) (hG : wrapAlg mo alg ws lws = some G) :
    ∃ G', wrapAlg mo alg ws' lws = some G' ∧ AllRel (AllRel R) G G' := by
  cases alg with
  | firstFit =>
    obtain rfl := Option.some.inj hG
    exact ⟨_, rfl, ffGo_rel hR _ _ 0 0 AllRel.nil h⟩
  | optimalFit p =>
    have hmap : ws.map (fragOf (α := α)) = ws'.map fragOf := h.map_eq _ _ fun a _ => hR a
    have key := ofWith_rel (fragOf (α := α)) p ws ws' (lws.map CostNum.ofNat)
      (mo (ws.map fragOf) (lws.map CostNum.ofNat)) hmap h.length h
    rw [wrapAlg_optimalFit_eq_some] at hG
    simp only [wrapAlg_optimalFit_eq_some, ← hmap]
    -- both runs end alike, and the coloured one with `.ok`
    rw [hG] at key
    generalize wrapOptimalFitWith (fragOf (α := α)) p ws' _ _ = y at key ⊢
    cases y with
    | ok b => exact ⟨b, rfl, key⟩
    | overflow => exact key.elim
    | panic => exact key.elim

end Algs

theorem strip_groupSlice (cw : Char → Nat) (g g' : List Word) (h : AllRel (WR cw) g g') :
    stripAnsi (groupSlice g) = groupSlice g' ∧
      (g.getLast?.map (·.pen)) = (g'.getLast?.map (·.pen)) ∧ (g.getLast?.isNone = g'.getLast?.isNone) := by
  obtain ⟨rfl, hok⟩ := allRel_WR.mp h
  refine ⟨(vis_groupSlice g fun w hw => (hok w hw).1).1, ?_, ?_⟩ <;>
    rw [List.getLast?_map] <;> cases g.getLast? <;> rfl

/-- what the caller sees of a line: indent, slice, inserted penalty -/
def LineD.parts (d : LineD) : Text × Text × Text := (d.indent, d.slice, d.pen)

/-- the byte offsets `start`, `len` differ between the coloured and the visible run and are not
    compared -/
def LineRel (d d' : LineD) : Prop := d'.indent = d.indent ∧ Vis d.slice d'.slice ∧ d'.pen = d.pen

theorem LineRel.parts {d d' : LineD} (h : LineRel d d') : (d.indent, stripAnsi d.slice, d.pen) = d'.parts := by
  obtain ⟨h1, h2, h3⟩ := h
  simp [LineD.parts, h1, h2.1, h3]

theorem LineRel.render {d d' : LineD} (h : LineRel d d') (hind : ∀ c ∈ d.indent, c ≠ ESC)
    (hpen : ∀ c ∈ d.pen, c ≠ ESC) : stripAnsi d.render = d'.render := by
  obtain ⟨h1, h2, h3⟩ := h
  simpa [LineD.render, h1, h3] using (((Vis.escfree hind).append h2).append (Vis.escfree hpen)).1

theorem groupPen_stripW (g : List Word) : groupPen (g.map stripW) = groupPen g := by
  unfold groupPen
  rw [List.getLast?_map]
  cases g.getLast? <;> rfl

theorem specLines_rel {cw : Char → Nat} (o : Opts) {G G' : List (List Word)} (h : AllRel (AllRel (WR cw)) G G')
    (idx idx' n : Nat) : AllRel LineRel (specLines o G idx n) (specLines o G' idx' n) := by
  induction h generalizing idx idx' n with
  | nil => exact AllRel.nil
  | cons hg _ ih =>
    obtain ⟨rfl, hok⟩ := allRel_WR.mp hg
    rw [specLines_cons, specLines_cons]
    exact AllRel.cons ⟨rfl, vis_groupSlice _ fun w hw => (hok w hw).1, groupPen_stripW _⟩ (ih _ _ _)

end TW
