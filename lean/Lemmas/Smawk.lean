/-
  `smawk_inner` of the model of `smawk` (TextwrapModel/Smawk.lean) on any matrix that answers: no
  monotonicity, any number type. It never runs past the end of `rows`, and the rows it stores are
  non-decreasing members of `rows` (`smawkInner_spec`). Each function is opened once, in its
  equations (`smawkPop_cons`, `smawkReduce_cons`, `smawkScan_stop` / `_nil` / `_cons`); those of
  `smawkInterp` and `smawkInner` are equivalences (`smawkInterp_one`, `smawkInterp_cons`,
  `smawkInner_cons`): here they build a run, in Lemmas/SmawkMin.lean they take a run that returned
  apart.
-/
import TextwrapModel.Smawk
import Lemmas.ListAux
namespace TW

section
variable {α : Type} [CostNum α]

def MTotal (m : Nat → Nat → Option α) (rows cols : List Nat) : Prop :=
  ∀ r ∈ rows, ∀ c ∈ cols, (m r c).isSome

variable (m : Nat → Nat → Option α)

theorem smawkPop_cons {cols : List Nat} {r top : Nat} {rest : List Nat} {a b : α}
    (hlt : rest.length < cols.length) (ha : m top (cols.getD rest.length 0) = some a)
    (hb : m r (cols.getD rest.length 0) = some b) :
    smawkPop m cols r (top :: rest) = if b < a then smawkPop m cols r rest else some (top :: rest) := by
  rw [smawkPop, getElem?_eq_some_getD hlt 0]
  dsimp only
  rw [ha, hb]

theorem smawkPop_spec (cols : List Nat) (r : Nat) (st : List Nat)
    (hst : MTotal m st cols) (hr : ∀ c ∈ cols, (m r c).isSome) (hlen : st.length ≤ cols.length) :
    ∃ st', smawkPop m cols r st = some st' ∧ st' <:+ st := by
  induction st with
  | nil => exact ⟨[], rfl, List.suffix_refl _⟩
  | cons top rest ih =>
    have hlt : rest.length < cols.length := Nat.lt_of_succ_le hlen
    have hmem := getD_mem_of_lt (d := 0) cols rest.length hlt
    obtain ⟨a, ha⟩ := Option.isSome_iff_exists.mp (hst top List.mem_cons_self _ hmem)
    obtain ⟨b, hb⟩ := Option.isSome_iff_exists.mp (hr _ hmem)
    rw [smawkPop_cons m hlt ha hb]
    by_cases hba : b < a
    · rw [if_pos hba]
      obtain ⟨st', h1, h2⟩ := ih (fun x hx => hst x (List.mem_cons_of_mem _ hx)) (Nat.le_of_succ_le hlen)
      exact ⟨st', h1, h2.trans (List.suffix_cons _ _)⟩
    · rw [if_neg hba]
      exact ⟨_, rfl, List.suffix_refl _⟩

theorem smawkReduce_cons (cols : List Nat) (r : Nat) (rs st : List Nat) :
    smawkReduce m cols (r :: rs) st = (smawkPop m cols r st).bind fun st' =>
      smawkReduce m cols rs (if st'.length ≠ cols.length then r :: st' else st') := by
  rw [smawkReduce]
  cases smawkPop m cols r st <;> rfl

/-- the `if` is the push of `smawkReduce` after `r` popped the stack down to `st'`: the stack keeps
    within `n` entries and is not empty when there is a column -/
theorem reduceStack_spec {st st' : List Nat} (h : st' <:+ st) (r : Nat) (rs : List Nat) {n : Nat}
    (hn : st'.length ≤ n) :
    ((if st'.length ≠ n then r :: st' else st').reverse ++ rs).Sublist (st.reverse ++ r :: rs) ∧
      (if st'.length ≠ n then r :: st' else st').length ≤ n ∧
      (n ≠ 0 → (if st'.length ≠ n then r :: st' else st') ≠ []) := by
  have hpre : st'.reverse.Sublist st.reverse := (List.reverse_prefix.mpr h).sublist
  by_cases hf : st'.length ≠ n
  · rw [if_pos hf, List.reverse_cons, List.append_assoc]
    exact ⟨hpre.append (List.Sublist.refl _), Nat.succ_le_of_lt (Nat.lt_of_le_of_ne hn hf),
      fun _ => List.cons_ne_nil _ _⟩
  · rw [if_neg hf]
    exact ⟨hpre.append (List.sublist_cons_self _ _), hn,
      fun h0 he => h0 ((Decidable.of_not_not hf).symm.trans (congrArg List.length he))⟩

/-- The last clause is what lets `smawk_inner` read `rows[0]` after reducing. -/
theorem smawkReduce_spec (cols : List Nat) (rows st : List Nat)
    (hst : MTotal m st cols) (hr : MTotal m rows cols) (hlen : st.length ≤ cols.length) :
    ∃ out, smawkReduce m cols rows st = some out ∧ out.reverse.Sublist (st.reverse ++ rows) ∧
      (cols ≠ [] → st ≠ [] ∨ rows ≠ [] → out ≠ []) := by
  induction rows generalizing st with
  | nil => exact ⟨st, rfl, List.sublist_append_left _ _, fun _ h => h.elim id fun h => absurd rfl h⟩
  | cons r rs ih =>
    obtain ⟨st', h1, h2⟩ := smawkPop_spec m cols r st hst (hr r List.mem_cons_self) hlen
    obtain ⟨hsub, hlen', hne⟩ := reduceStack_spec h2 r rs (Nat.le_trans h2.length_le hlen)
    obtain ⟨out, o1, o3, o4⟩ := ih (if st'.length ≠ cols.length then r :: st' else st')
      (fun x hx => (List.mem_append.mp (hsub.subset (List.mem_append_left _ (List.mem_reverse.mpr hx)))).elim
        (fun h => hst x (List.mem_reverse.mp h)) (hr x))
      (fun x hx => hr x (List.mem_cons_of_mem _ hx)) hlen'
    exact ⟨out, by rw [smawkReduce_cons, h1]; exact o1, o3.trans hsub,
      fun hc _ => o4 hc (Or.inl (hne fun h0 => hc (List.eq_nil_of_length_eq_zero h0)))⟩

theorem smawkScan_stop (col l : Nat) (rest : List Nat) (pv : α) (pr : Nat) :
    smawkScan m col l l rest pv pr = some (l, rest, pr) := by
  unfold smawkScan
  exact if_pos rfl

theorem smawkScan_nil {col l row : Nat} (he : row ≠ l) (pv : α) (pr : Nat) :
    smawkScan m col l row [] pv pr = none := by
  unfold smawkScan
  exact if_neg he

/-- one row further: the pair carried on is the smaller one in the order `(value, row) <` -/
theorem smawkScan_cons {col l row x : Nat} {rest : List Nat} {pv v : α} {pr : Nat} (he : row ≠ l)
    (hv : m x col = some v) :
    smawkScan m col l row (x :: rest) pv pr =
      smawkScan m col l x rest (if tupLt v x pv pr = true then v else pv)
        (if tupLt v x pv pr = true then x else pr) := by
  rw [smawkScan, if_neg he, hv]
  dsimp only
  by_cases ht : tupLt v x pv pr = true
  · rw [if_pos ht, if_pos ht, if_pos ht]
  · rw [if_neg ht, if_neg ht, if_neg ht]

theorem smawkScan_spec (col lastRow : Nat) (rest : List Nat) : ∀ (row : Nat) (pv : α) (pr : Nat),
    List.Pairwise (· < ·) (row :: rest) → lastRow ∈ row :: rest →
    (∀ x ∈ rest, (m x col).isSome) → pr ≤ row →
    ∃ rest' best, smawkScan m col lastRow row rest pv pr = some (lastRow, rest', best) ∧
      (lastRow :: rest') <:+ (row :: rest) ∧ best ≤ lastRow ∧ best ∈ pr :: rest := by
  induction rest with
  | nil =>
    intro row pv pr _ hmem _ hpr
    obtain rfl := List.mem_singleton.mp hmem
    exact ⟨[], pr, smawkScan_stop .., List.suffix_refl _, hpr, List.mem_cons_self⟩
  | cons x rest ih =>
    intro row pv pr hs hmem hm hpr
    by_cases he : row = lastRow
    · subst he
      exact ⟨x :: rest, pr, smawkScan_stop .., List.suffix_refl _, hpr, List.mem_cons_self⟩
    · obtain ⟨v, hv⟩ := Option.isSome_iff_exists.mp (hm x List.mem_cons_self)
      obtain ⟨hx, hs'⟩ := List.pairwise_cons.mp hs
      obtain ⟨r', b, h1, h2, h3, h4⟩ := ih x (if tupLt v x pv pr = true then v else pv)
        (if tupLt v x pv pr = true then x else pr) hs' ((List.mem_cons.mp hmem).resolve_left (Ne.symm he))
        (fun y hy => hm y (List.mem_cons_of_mem _ hy))
        (by
          split
          · exact Nat.le_refl _
          · exact Nat.le_trans hpr (Nat.le_of_lt (hx x List.mem_cons_self)))
      refine ⟨r', b, (smawkScan_cons m he hv).trans h1, h2.trans (List.suffix_cons _ _), h3, ?_⟩
      rcases List.mem_cons.mp h4 with rfl | h
      · split
        · exact List.mem_cons_of_mem _ List.mem_cons_self
        · exact List.mem_cons_self
      · exact List.mem_cons_of_mem _ (List.mem_cons_of_mem _ h)

theorem oddElems_sublist {γ : Type} (l : List γ) : (oddElems l).Sublist l := by
  fun_induction oddElems l with
  | case1 => exact .refl _
  | case2 => exact List.nil_sublist _
  | case3 a b t ih => exact (ih.cons_cons b).cons a

theorem mem_of_mem_oddElems {γ : Type} {x : γ} {l : List γ} (h : x ∈ oddElems l) : x ∈ l :=
  (oddElems_sublist l).subset h

theorem setAt_eq_some {l l' : List Nat} {i v : Nat} : setAt l i v = some l' ↔ i < l.length ∧ l' = l.set i v := by
  unfold setAt
  by_cases h : i < l.length
  · rw [if_pos h]
    exact ⟨fun e => ⟨h, (Option.some.inj e).symm⟩, fun e => congrArg some e.2.symm⟩
  · rw [if_neg h]
    exact ⟨fun e => (nomatch e), fun e => absurd e.1 h⟩

theorem smawkInterp_nil (l cur : Nat) (rest mn : List Nat) :
    smawkInterp m l [] cur rest mn = some mn := rfl

theorem smawkInterp_one {m : Nat → Nat → Option α} {l col cur : Nat} {rest mn mn' : List Nat} :
    smawkInterp m l [col] cur rest mn = some mn' ↔
      ∃ v r, m cur col = some v ∧ smawkScan m col l cur rest v cur = some r ∧
        col < mn.length ∧ mn' = mn.set col r.2.2 := by
  unfold smawkInterp
  constructor
  · intro h
    split at h
    · cases h
    · rename_i v hv
      split at h
      · cases h
      · rename_i hs
        exact ⟨v, _, hv, hs, setAt_eq_some.mp h⟩
  · rintro ⟨v, ⟨x, y, best⟩, hv, hs, h⟩
    rw [hv]
    dsimp only
    rw [hs]
    exact setAt_eq_some.mpr h

theorem smawkInterp_cons {m : Nat → Nat → Option α} {l col nxt cur : Nat} {cs rest mn mn' : List Nat} :
    smawkInterp m l (col :: nxt :: cs) cur rest mn = some mn' ↔
      ∃ v r, m cur col = some v ∧ nxt < mn.length ∧
        smawkScan m col (mn.getD nxt 0) cur rest v cur = some r ∧ col < mn.length ∧
        smawkInterp m l cs r.1 r.2.1 (mn.set col r.2.2) = some mn' := by
  rw [smawkInterp.eq_def]
  dsimp only
  constructor
  · intro h
    split at h
    · rename_i lastRow v hl hv
      obtain ⟨hn, rfl⟩ := List.getElem?_eq_some_iff.mp hl
      rw [List.getElem_eq_getD 0] at h
      split at h
      · cases h
      · rename_i hs
        split at h
        · cases h
        · rename_i hset
          obtain ⟨hcl, rfl⟩ := setAt_eq_some.mp hset
          exact ⟨v, _, hv, hn, hs, hcl, h⟩
    · cases h
  · rintro ⟨v, ⟨row, rest', best⟩, hv, hn, hs, hcl, h⟩
    rw [getElem?_eq_some_getD hn 0, hv]
    dsimp only
    rw [hs]
    dsimp only
    rw [setAt_eq_some.mpr ⟨hcl, rfl⟩]
    exact h

theorem smawkInterp_frame {mn mn' cs : List Nat} {col nxt best : Nat} (hcl : col < mn.length)
    (hcol : col ∉ cs) (hnxt : nxt ∉ cs) (hne : nxt ≠ col)
    (r5 : ∀ k, k ∉ cs → mn'.getD k 0 = (mn.set col best).getD k 0) :
    mn'.getD col 0 = best ∧ mn'.getD nxt 0 = mn.getD nxt 0 ∧
      ∀ k, k ∉ col :: nxt :: cs → mn'.getD k 0 = mn.getD k 0 := by
  refine ⟨by rw [r5 col hcol, getD_set hcl, if_pos rfl],
    by rw [r5 nxt hnxt, getD_set hcl, if_neg hne], fun k hk => ?_⟩
  have hk := not_or.mp fun h => hk (List.mem_cons.mpr (h.imp_right (List.mem_cons_of_mem _)))
  rw [r5 k hk.2, getD_set hcl, if_neg hk.1]

/-- The minima of the odd columns are non-decreasing members of the remaining rows, so the forward
    scan of every even column meets its stop row: no index runs past the end of `rows`. -/
theorem smawkInterp_spec (lastOfRows : Nat) :
    ∀ (cols : List Nat) (cur : Nat) (rest : List Nat) (mn : List Nat),
    List.Pairwise (· < ·) (cur :: rest) →
    (cur :: rest).getLast? = some lastOfRows →
    cols.Nodup →
    (∀ c ∈ cols, c < mn.length) →
    MTotal m (cur :: rest) cols →
    (∀ c ∈ oddElems cols, mn.getD c 0 ∈ cur :: rest) →
    List.Pairwise (fun a b => mn.getD a 0 ≤ mn.getD b 0) (oddElems cols) →
    ∃ mn', smawkInterp m lastOfRows cols cur rest mn = some mn' ∧ mn'.length = mn.length ∧
      (∀ c ∈ cols, mn'.getD c 0 ∈ cur :: rest) ∧
      List.Pairwise (fun a b => mn'.getD a 0 ≤ mn'.getD b 0) cols ∧
      (∀ k, k ∉ cols → mn'.getD k 0 = mn.getD k 0) := by
  intro cols
  induction cols using oddElems.induct with
  | case1 => exact fun cur rest mn _ _ _ _ _ _ _ => ⟨mn, smawkInterp_nil .., rfl, fun _ h => absurd h List.not_mem_nil, .nil, fun _ _ => rfl⟩
  | case2 col =>
    intro cur rest mn hs hlast _ hlen hm _ _
    have hcl : col < mn.length := hlen col List.mem_cons_self
    obtain ⟨v, hv⟩ := Option.isSome_iff_exists.mp (hm cur List.mem_cons_self col List.mem_cons_self)
    obtain ⟨rest', best, h1, _, _, hb⟩ := smawkScan_spec m col lastOfRows rest cur v cur hs
      (List.mem_of_getLast? hlast) (fun x hx => hm x (List.mem_cons_of_mem _ hx) col List.mem_cons_self)
      (Nat.le_refl _)
    refine ⟨mn.set col best, ?_, List.length_set .., fun c hc => ?_, List.pairwise_singleton ..,
      fun k hk => ?_⟩
    · exact smawkInterp_one.mpr ⟨v, _, hv, h1, hcl, rfl⟩
    · rw [List.mem_singleton.mp hc, getD_set hcl, if_pos rfl]
      exact hb
    · rw [getD_set hcl, if_neg fun e => hk (List.mem_singleton.mpr e)]
  | case3 col nxt cs ih =>
    intro cur rest mn hs hlast hnd hlen hm hodd hpw
    have hcl : col < mn.length := hlen col List.mem_cons_self
    have hnl : nxt < mn.length := hlen nxt (List.mem_cons_of_mem _ List.mem_cons_self)
    obtain ⟨hcn, hnd'⟩ := List.nodup_cons.mp hnd
    obtain ⟨hnxt_cs, hnd''⟩ := List.nodup_cons.mp hnd'
    obtain ⟨hcol_ne, hcol_cs⟩ := not_or.mp fun h => hcn (List.mem_cons.mpr h)
    have hsub : ∀ c ∈ cs, c ∈ col :: nxt :: cs := fun c hc =>
      List.mem_cons_of_mem _ (List.mem_cons_of_mem _ hc)
    obtain ⟨v, hv⟩ := Option.isSome_iff_exists.mp (hm cur List.mem_cons_self col List.mem_cons_self)
    have hlr : mn.getD nxt 0 ∈ cur :: rest := hodd nxt List.mem_cons_self
    obtain ⟨rest', best, h1, h2, h3, hb⟩ := smawkScan_spec m col (mn.getD nxt 0) rest cur v cur hs hlr
      (fun x hx => hm x (List.mem_cons_of_mem _ hx) col List.mem_cons_self) (Nat.le_refl _)
    have hs' : List.Pairwise (· < ·) (mn.getD nxt 0 :: rest') := hs.sublist h2.sublist
    obtain ⟨hnxt_le, hpw'⟩ := List.pairwise_cons.mp hpw
    have hsame : ∀ c ∈ oddElems cs, (mn.set col best).getD c 0 = mn.getD c 0 := fun c hc => by
      rw [getD_set hcl, if_neg fun (e : c = col) => hcol_cs (e ▸ mem_of_mem_oddElems hc)]
    -- the minima of the odd columns further on lie at or after the stop row of this scan
    obtain ⟨mn', r1, r2, r3, r4, r5⟩ := ih (mn.getD nxt 0) rest' (mn.set col best) hs'
      ((getLast?_of_suffix h2 (List.cons_ne_nil _ _)).trans hlast) hnd''
      (fun c hc => by rw [List.length_set]; exact hlen c (hsub c hc))
      (fun x hx c hc => hm x (h2.subset hx) c (hsub c hc))
      (fun c hc => by
        rw [hsame c hc]
        exact mem_suffix_of_le hs h2 (hodd c (List.mem_cons_of_mem _ hc)) (hnxt_le c hc))
      (hpw'.imp_of_mem fun ha hb' hab => by rwa [hsame _ ha, hsame _ hb'])
    obtain ⟨rfl, vnxt, hfr⟩ := smawkInterp_frame hcl hcol_cs hnxt_cs (Ne.symm hcol_ne) r5
    have hge : ∀ c ∈ cs, mn'.getD nxt 0 ≤ mn'.getD c 0 := fun c hc =>
      vnxt ▸ le_of_mem_sorted_cons hs' (r3 c hc)
    rw [← vnxt] at hlr h3
    refine ⟨mn', smawkInterp_cons.mpr ⟨v, _, hv, hnl, h1, hcl, r1⟩, by rw [r2, List.length_set], ?_, ?_, hfr⟩
    · exact List.forall_mem_cons.mpr
        ⟨hb, List.forall_mem_cons.mpr ⟨hlr, fun c hc => h2.subset (r3 c hc)⟩⟩
    · exact List.pairwise_cons.mpr
        ⟨List.forall_mem_cons.mpr ⟨h3, fun c hc => Nat.le_trans h3 (hge c hc)⟩,
          List.pairwise_cons.mpr ⟨hge, r4⟩⟩

theorem smawkInner_nil (rows minima : List Nat) :
    smawkInner m rows [] minima = some minima := by
  rw [smawkInner]; rfl

theorem smawkInner_cons {m : Nat → Nat → Option α} {rows cols minima mn' : List Nat} (hc : cols ≠ []) :
    smawkInner m rows cols minima = some mn' ↔
      ∃ st, smawkReduce m cols rows [] = some st ∧
        ∃ mn, smawkInner m st.reverse (oddElems cols) minima = some mn ∧
          ∃ cur rest, st.reverse = cur :: rest ∧
            smawkInterp m ((cur :: rest).getLast?.getD 0) cols cur rest mn = some mn' := by
  rw [smawkInner, if_neg hc]
  constructor
  · intro h
    split at h
    · cases h
    · rename_i st h1
      dsimp only at h
      split at h
      · cases h
      · rename_i mn h2
        split at h
        · cases h
        · rename_i cur rest h3
          exact ⟨st, h1, mn, h2, cur, rest, h3, h3 ▸ h⟩
  · rintro ⟨st, h1, mn, h2, cur, rest, h3, h⟩
    rw [h1]
    dsimp only
    rw [h2, h3]
    exact h

theorem oddElems_length_lt {γ : Type} {l : List γ} (hc : l ≠ []) : (oddElems l).length < l.length :=
  Nat.lt_of_le_of_lt (oddElems_length_le l) (Nat.div_lt_self (List.length_pos_iff.mpr hc) (Nat.lt_succ_self 1))

theorem smawkInner_spec (m : Nat → Nat → Option α) : ∀ (n : Nat) (cols rows minima : List Nat),
    cols.length ≤ n →
    List.Pairwise (· < ·) rows → rows ≠ [] → cols.Nodup → (∀ c ∈ cols, c < minima.length) →
    MTotal m rows cols →
    ∃ mn, smawkInner m rows cols minima = some mn ∧ mn.length = minima.length ∧
      (∀ c ∈ cols, mn.getD c 0 ∈ rows) ∧
      List.Pairwise (fun a b => mn.getD a 0 ≤ mn.getD b 0) cols ∧
      (∀ k, k ∉ cols → mn.getD k 0 = minima.getD k 0) := by
  intro n
  induction n with
  | zero =>
    intro cols rows minima hn _ _ _ _ _
    obtain rfl : cols = [] := List.eq_nil_of_length_eq_zero (Nat.le_zero.mp hn)
    exact ⟨minima, smawkInner_nil .., rfl, fun _ h => absurd h List.not_mem_nil, .nil, fun _ _ => rfl⟩
  | succ n ih =>
    intro cols rows minima hn hs hne hnd hlen hm
    by_cases hc : cols = []
    · exact ih cols rows minima (hc ▸ Nat.zero_le n) hs hne hnd hlen hm
    · obtain ⟨out, o1, o3, o4⟩ := smawkReduce_spec m cols rows [] (fun x hx => absurd hx List.not_mem_nil) hm
        (Nat.zero_le _)
      rw [List.reverse_nil, List.nil_append] at o3
      have hs' : List.Pairwise (· < ·) out.reverse := hs.sublist o3
      have hne' : out.reverse ≠ [] := fun h => o4 hc (Or.inr hne) (List.reverse_eq_nil_iff.mp h)
      obtain ⟨mn1, a1, a2, a3, a4, a5⟩ := ih (oddElems cols) out.reverse minima
        (Nat.le_of_lt_succ (Nat.lt_of_lt_of_le (oddElems_length_lt hc) hn))
        hs' hne' (hnd.sublist (oddElems_sublist cols)) (fun c hc' => hlen c (mem_of_mem_oddElems hc'))
        fun x hx c hc' => hm x (o3.subset hx) c (mem_of_mem_oddElems hc')
      obtain ⟨cur, rest, hrows⟩ := List.exists_cons_of_ne_nil hne'
      rw [hrows] at hs' a3 o3
      obtain ⟨mn', b1, b2, b3, b4, b5⟩ := smawkInterp_spec m _ cols cur rest mn1 hs'
        (by rw [List.getLast?_eq_some_getLast (List.cons_ne_nil _ _)]) hnd
        (fun c hc' => by rw [a2]; exact hlen c hc') (fun x hx => hm x (o3.subset hx)) a3 a4
      exact ⟨mn', (smawkInner_cons hc).mpr ⟨out, o1, mn1, a1, cur, rest, hrows, b1⟩, by rw [b2, a2],
        fun c hc' => o3.subset (b3 c hc'), b4, fun k hk => by
          rw [b5 k hk, a5 k (fun e => hk (mem_of_mem_oddElems e))]⟩

/-- the form in which `online_column_minima` calls `smawk_inner` -/
theorem smawkInner_interval {a e b d : Nat} {minima : List Nat} (hae : a < e)
    (hd : d ≤ minima.length) (hm : ∀ r, a ≤ r → r < e → ∀ c, b ≤ c → c < d → (m r c).isSome) :
    ∃ mn, smawkInner m (List.range' a (e - a)) (List.range' b (d - b)) minima = some mn ∧
      mn.length = minima.length ∧ ∀ c, b ≤ c → c < d → mn.getD c 0 < e := by
  obtain ⟨mn, h1, h2, h3, _, _⟩ := smawkInner_spec m _ (List.range' b (d - b)) (List.range' a (e - a))
    minima (Nat.le_refl _) List.pairwise_lt_range'
    (fun h => Nat.sub_ne_zero_of_lt hae (List.range'_eq_nil_iff.mp h)) List.nodup_range'
    (fun c hc => Nat.lt_of_lt_of_le (mem_range'_sub.mp hc).2 hd)
    fun r hr c hc => hm r (mem_range'_sub.mp hr).1 (mem_range'_sub.mp hr).2 c (mem_range'_sub.mp hc).1
      (mem_range'_sub.mp hc).2
  exact ⟨mn, h1, h2, fun c h1 h2 => (mem_range'_sub.mp (h3 c (mem_range'_sub.mpr ⟨h1, h2⟩))).2⟩

end
end TW
