/-
  Optimal-fit keeps fragments that fit the first line on one line (for `nline_penalty > 0`):
  the one-line arrangement is the unique minimum, so any conforming `minima` yields it.
-/
import Lemmas.OptimalBridge
import Lemmas.Width
import Lemmas.WrapLine
namespace TW

open TW.Opt

theorem segCost_ge {I : Inst} (h : I.Hyp) (segs : List (Nat × Nat)) :
    (segs.length : Int) * I.P ≤ segCost I.c segs := by
  induction segs with
  | nil => simp [segCost]
  | cons p r ih =>
    rw [segCost_cons, List.length_cons, Int.natCast_succ, Int.add_mul, Int.one_mul, Int.add_comm]
    exact Int.add_le_add
      (Int.le_trans (Int.le_add_of_nonneg_right (Inst.hy_nonneg h p.2)) (Inst.c_lower h p.1 p.2)) ih

theorem fragOf_getD {words : List Word} (hnp : NoPen words) (k : Nat) :
    0 ≤ ((words.map (fragOf (α := Int))).getD k fragD).w ∧
      0 ≤ ((words.map (fragOf (α := Int))).getD k fragD).ws ∧
      ((words.map (fragOf (α := Int))).getD k fragD).pen = 0 := by
  refine getD_all (P := fun f : IFrag => 0 ≤ f.w ∧ 0 ≤ f.ws ∧ f.pen = 0) _ fragD ?_ ⟨Int.le_refl _, Int.le_refl _, rfl⟩ k
  intro f hf
  obtain ⟨w, hw, rfl⟩ := List.mem_map.mp hf
  simp only [fragOf, ofNat_int, hnp w hw, blen_nil]
  exact ⟨Int.natCast_nonneg _, Int.natCast_nonneg _, rfl⟩

theorem hyp_words (p : Penalties) (lws : List Int) (words : List Word) (hnp : NoPen words) :
    (instOf p lws (words.map (fragOf (α := Int)))).Hyp := by
  have nn := fragOf_getD hnp
  refine instOf_hyp p lws (fun k => ⟨(nn k).1, (nn k).2.1, Int.le_of_eq (nn k).2.2.symm⟩) fun k _ => ?_
  rw [(nn k).2.2]
  exact (nn (k + 1)).1

theorem W_words (p : Penalties) (lws : List Int) (words : List Word) :
    (instOf p lws (words.map (fragOf (α := Int)))).W words.length = (fragSum words : Int) := by
  rw [instOf_W]
  induction words with
  | nil => rfl
  | cons w r ih =>
    rw [List.map_cons, List.length_cons, W_cons, ih, fragSum_cons]
    simp only [fragOf, ofNat_int]; omega

/-- `2 ≤ words.length`: then the one line is not the one-fragment last line, the only entry of the
    matrix that can carry the short-last-line penalty -/
theorem c_one_line (p : Penalties) (lws : List Int) {words : List Word} (hnp : NoPen words)
    (hn : 2 ≤ words.length) (hfit : (fragSum words : Int) ≤ lws.getD 0 (defaultLw lws)) :
    (instOf p lws (words.map (fragOf (α := Int)))).c 0 words.length = (p.nline : Int) := by
  have hn' : (instOf p lws (words.map (fragOf (α := Int)))).n = words.length := List.length_map _
  have hpen : (instOf p lws (words.map (fragOf (α := Int)))).pen (words.length - 1) = 0 :=
    (fragOf_getD hnp _).2.2
  have hws := (hyp_words p lws words hnp).ws0 (words.length - 1)
  have hT : lws.getD 0 (defaultLw lws) ≤ (instOf p lws (words.map (fragOf (α := Int)))).T0 :=
    Int.le_trans (Int.le_max_right 1 _) (Int.le_of_eq (max1_eq _).symm)
  -- the last line, not the short-line entry: `P + ocost + hy`, and both terms vanish
  rw [Inst.c_last 0 _ (Nat.not_lt.mpr (Nat.le_of_eq hn')) (Nat.ne_of_lt hn), Inst.t_zero, Inst.hy, hpen,
    if_neg (Int.lt_irrefl _), ocost_of_le, Int.add_zero, Int.add_zero]
  · rfl
  · rw [Inst.x, W_words, hpen, Inst.W, Int.add_zero, Int.sub_zero]
    exact Int.le_trans (Int.sub_le_self _ hws) (Int.le_trans hfit hT)

/-- optimal-fit keeps what fits on one line: for `nline_penalty > 0`, penalty-free fragments
    whose total width fits the first line width, and any conforming `minima`, the result is the
    single line holding all fragments -/
theorem wrapAlg_optimal_one_line (mo : MinimaOracle Int) (p : Penalties) (hP : 0 < p.nline)
    (words : List Word) (a b : Nat) (hnp : NoPen words) (hfit : fragSum words ≤ a)
    (hmin : IsMinimaRows p [(a : Int), (b : Int)] (words.map fragOf)
      (mo (words.map fragOf) [(a : Int), (b : Int)])) :
    wrapAlg mo (.optimalFit p) words [a, b] = some [words] := by
  by_cases hw : words = []
  · have ⟨ls, e, _, _, h0⟩ := optimalFit_partition_int (fragOf (α := Int)) p words [(a : Int), (b : Int)]
      (mo (words.map fragOf) [(a : Int), (b : Int)]) (List.length_map (fragOf (α := Int)) ▸ hmin.shape)
    rw [(wrapAlg_optimalFit_eq_some (lws := [a, b])).mpr e, h0 hw, hw]
  have hl2 : ([(a : Int), (b : Int)]).length ≤ 2 := Nat.le_refl 2
  obtain ⟨segs, h1, h2, h3⟩ := optimalFit_min (fragOf (α := Int)) p [(a : Int), (b : Int)] hl2 words hw _ hmin
  rw [(wrapAlg_optimalFit_eq_some (lws := [a, b])).mpr h1]
  have hpos : 0 < words.length := List.length_pos_iff.mpr hw
  have hone : segs = [(0, words.length)] := by
    refine h2.eq_single hpos (Nat.le_of_not_lt fun hlen => ?_)
    -- every line costs at least the line penalty, the one line costs it once
    have hc1 : SegChain 0 [(0, words.length)] words.length := ⟨rfl, hpos, rfl⟩
    have hopt := h3 _ hc1
    have hlm : (words.map (fragOf (α := Int))).length = words.length := List.length_map _
    rw [arrCost_eq_segCost hl2 h2 (Nat.le_of_eq hlm.symm) Iff.rfl,
      arrCost_eq_segCost hl2 hc1 (Nat.le_of_eq hlm.symm) Iff.rfl,
      segCost_cons, segCost_nil, Int.add_zero,
      c_one_line p [(a : Int), (b : Int)] hnp (Nat.le_trans hlen h2.length_le) (Int.ofNat_le.mpr hfit)] at hopt
    have hge : (segs.length : Int) * p.nline ≤ 1 * p.nline :=
      Int.one_mul _ ▸ Int.le_trans (segCost_ge (hyp_words p [(a : Int), (b : Int)] words hnp) segs) hopt
    exact absurd (Int.ofNat_le.mp (Int.le_of_mul_le_mul_right hge (Int.ofNat_lt.mpr hP))) (Nat.not_le.mpr hlen)
  subst hone
  simp

end TW
