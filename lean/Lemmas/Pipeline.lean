/-
  The fragment pipeline of the slow path (find → split → break → sentinel): how a stage that works
  word by word is reasoned about (`Piecewise`; through it the general facts about `break_words`), and
  the pipeline opened once (`pipeline_eq`).
-/
import TextwrapModel.Wrap
import Lemmas.WordsUnicode
import Lemmas.SplitWords
import Lemmas.Break
namespace TW

variable (cw : Char → Nat) (limit : Nat) (env : Env)

/-- the input text a fragment stands for (the penalty is not input text) -/
def Word.text (w : Word) : Text := w.word ++ w.ws

/-- concatenation of the fragments' texts -/
def wordsText (ws : List Word) : Text := (ws.map Word.text).flatten

@[simp] theorem wordsText_nil : wordsText [] = [] := rfl
@[simp] theorem wordsText_cons (w : Word) (ws : List Word) : wordsText (w :: ws) = w.word ++ w.ws ++ wordsText ws := by
  simp [wordsText, Word.text]
@[simp] theorem wordsText_append (a b : List Word) : wordsText (a ++ b) = wordsText a ++ wordsText b := by
  simp [wordsText]

theorem wordsText_no_ws (fs : List Word) (h : ∀ f ∈ fs, f.ws = []) :
    wordsText fs = (fs.map (·.word)).flatten := by
  induction fs with
  | nil => rfl
  | cons f r ih =>
    simp only [wordsText_cons, h f (by simp), List.append_nil, List.map_cons, List.flatten_cons]
    rw [ih (fun x hx => h x (by simp [hx]))]

/-- what every fragment of the pipeline satisfies: whitespace is spaces only, the cached width
    is the display width -/
def FragOk (cw : Char → Nat) (w : Word) : Prop :=
  (∀ c ∈ w.ws, c = SP) ∧ w.width = displayWidth cw w.word

theorem from_fragOk (t : Text) : FragOk cw (Word.from cw t) :=
  ⟨trimEndSp_rest_spaces t, rfl⟩

/-- a word wider than some limit, as `break_words` breaks it, has text -/
theorem FragOk.word_ne_nil {cw : Char → Nat} {w : Word} (h : FragOk cw w) {limit : Nat} (hlt : limit < w.width) :
    w.word ≠ [] := by
  intro he
  rw [h.2, he, displayWidth_nil] at hlt
  exact Nat.not_lt_zero _ hlt

/-! ### a stage of the pipeline maps every word to a list of fragments

`split_words` and `break_words` both replace each word by some fragments and concatenate. What a
stage does to one word (`R w fs`) decides what it does to the list; the lemmas on `Piecewise` carry
a fact about single words to the whole list, so what is claimed of every fragment, or of their
concatenation, needs no induction over the word list. -/

/-- `fs` is `ws` with every word `w` replaced by fragments related to it by `R` -/
inductive Piecewise (R : Word → List Word → Prop) : List Word → List Word → Prop
  | nil : Piecewise R [] []
  | cons {w ws fs rest} : R w fs → Piecewise R ws rest → Piecewise R (w :: ws) (fs ++ rest)

theorem Piecewise.forall_mem {R : Word → List Word → Prop} {P : Word → Prop} {ws fs : List Word}
    (h : Piecewise R ws fs) (hR : ∀ w ∈ ws, ∀ ps, R w ps → ∀ p ∈ ps, P p) : ∀ p ∈ fs, P p := by
  induction h with
  | nil => simp
  | cons hw _ ih =>
    intro p hp
    rcases List.mem_append.mp hp with hp | hp
    · exact hR _ (by simp) _ hw p hp
    · exact ih (fun w hw' => hR w (by simp [hw'])) p hp

theorem Piecewise.flatten_eq {R : Word → List Word → Prop} {β : Type} {f : Word → List β} {ws fs : List Word}
    (h : Piecewise R ws fs) (hR : ∀ w ∈ ws, ∀ ps, R w ps → (ps.map f).flatten = f w) :
    (fs.map f).flatten = (ws.map f).flatten := by
  induction h with
  | nil => rfl
  | cons hw _ ih =>
    rw [List.map_append, List.flatten_append, hR _ (by simp) _ hw, ih (fun w hw' => hR w (by simp [hw']))]
    rfl

theorem Piecewise.eq_self {R : Word → List Word → Prop} {ws fs : List Word} (h : Piecewise R ws fs)
    (hR : ∀ w ∈ ws, ∀ ps, R w ps → ps = [w]) : fs = ws := by
  induction h with
  | nil => rfl
  | cons hw _ ih => rw [hR _ (by simp) _ hw, ih (fun w hw' => hR w (by simp [hw']))]; rfl

theorem splitWords_piecewise {env : Env} {sp : Splitter} {ws sw : List Word}
    (h : splitWords env sp ws = some sw) :
    Piecewise (fun w ps => splitOne env.cw w (sp.points env.isAlnum w.word) 0 = some ps) ws sw := by
  induction ws generalizing sw with
  | nil => obtain rfl := Option.some.inj h; exact .nil
  | cons w rest ih =>
    obtain ⟨a, b, ha, hb, rfl⟩ := splitWords_cons_eq_some.mp h
    exact .cons ha (ih hb)

theorem breakWords_piecewise (ws : List Word) :
    Piecewise (fun w ps => ps = if limit < w.width then breakApart cw limit w else [w]) ws
      (breakWords cw limit ws) := by
  induction ws with
  | nil => exact .nil
  | cons w rest ih => exact .cons rfl ih

theorem splitWords_forall {env : Env} {sp : Splitter} {ws sw : List Word} (h : splitWords env sp ws = some sw)
    {P : Word → Prop}
    (hP : ∀ w ∈ ws, ∀ ps, splitOne env.cw w (sp.points env.isAlnum w.word) 0 = some ps → ∀ p ∈ ps, P p) :
    ∀ p ∈ sw, P p :=
  (splitWords_piecewise h).forall_mem hP

theorem mem_breakWords {cw : Char → Nat} {limit : Nat} {ws : List Word} :
    ∀ f ∈ breakWords cw limit ws, ∃ w ∈ ws, (limit < w.width ∧ f ∈ breakApart cw limit w) ∨ (f = w ∧ w.width ≤ limit) := by
  refine (breakWords_piecewise cw limit ws).forall_mem ?_
  rintro w hw ps rfl p hp
  split at hp
  · next hlt => exact ⟨w, hw, Or.inl ⟨hlt, hp⟩⟩
  · next hle => exact ⟨w, hw, Or.inr ⟨List.mem_singleton.mp hp, Nat.le_of_not_lt hle⟩⟩

theorem breakWords_fixed (ws : List Word)
    (h : ∀ w ∈ ws, limit < w.width → breakApart cw limit w = [w]) : breakWords cw limit ws = ws := by
  refine (breakWords_piecewise cw limit ws).eq_self ?_
  rintro w hw ps rfl
  split
  · next hlt => exact h w hw hlt
  · rfl

theorem breakWords_passthrough (cw : Char → Nat) (limit : Nat) (ws : List Word)
    (h : ∀ w ∈ ws, w.width ≤ limit) : breakWords cw limit ws = ws :=
  breakWords_fixed cw limit ws fun w hw hlt => absurd hlt (Nat.not_lt.mpr (h w hw))

theorem breakWords_bound (ws : List Word) :
    ∀ f ∈ breakWords cw limit ws, f.width ≤ limit ∨ nzFrom cw .normal f.word = 1 := by
  intro f hf
  obtain ⟨w, _, ⟨_, h⟩ | ⟨rfl, h⟩⟩ := mem_breakWords f hf
  · exact (breakOK_mem (breakApart_ok cw limit w) f h).2.2.1
  · exact Or.inl h

/-! ### the separators keep the text of the line -/

theorem wordsText_map_from (ps : List Text) : wordsText (ps.map (Word.from cw)) = ps.flatten :=
  congrArg List.flatten (map_from_text cw ps)

theorem findWordsAscii_text (line : Text) : wordsText (findWordsAscii cw line) = line := by
  rw [findWordsAscii, wordsText_map_from, asciiGo_flatten]; rfl

theorem findWords_eq_map {env : Env} {sep : Sep} {line : Text} {ws : List Word}
    (h : findWords env sep line = some ws) : ∃ ps : List Text, ps.flatten = line ∧ ws = ps.map (Word.from env.cw) := by
  cases sep with
  | ascii => exact ⟨_, asciiGo_flatten [] false line, by simpa [findWordsAscii] using h.symm⟩
  | unicode =>
    obtain ⟨os, _, rfl⟩ := findWordsUnicode_some h
    exact ⟨_, uniGo_flatten0 os line, rfl⟩

theorem findWords_text {env : Env} {sep : Sep} {line : Text} {ws : List Word}
    (h : findWords env sep line = some ws) : wordsText ws = line ∧ ∀ w ∈ ws, FragOk env.cw w := by
  obtain ⟨ps, hps, rfl⟩ := findWords_eq_map h
  refine ⟨by rw [wordsText_map_from, hps], fun w hw => ?_⟩
  obtain ⟨t, _, rfl⟩ := List.mem_map.mp hw
  exact from_fragOk _ t

/-! ### the stages, opened once -/

/-- (`Word.from env.cw []` is the empty sentinel word that stands for a non-empty initial indent) -/
theorem pipeline_eq (o : Opts) (line : Text) (sw : Nat) :
    pipeline env o line sw =
      (findWords env o.sep line).bind fun fw => (splitWords env o.splitter fw).map fun sws =>
        if o.breakWords then
          (if o.initialIndent.isEmpty then breakWords env.cw sw sws
           else Word.from env.cw [] :: breakWords env.cw sw sws)
        else sws := by
  unfold pipeline
  cases findWords env o.sep line with
  | none => rfl
  | some fw =>
    dsimp only [Option.bind_some]
    cases splitWords env o.splitter fw with
    | none => rfl
    | some sws => cases o.breakWords <;> cases o.initialIndent.isEmpty <;> rfl

theorem pipeline_stages {env : Env} {o : Opts} {line : Text} {sw : Nat} {frs : List Word}
    (h : pipeline env o line sw = some frs) :
    ∃ fw sws, findWords env o.sep line = some fw ∧ splitWords env o.splitter fw = some sws ∧
      frs = if o.breakWords then
          (if o.initialIndent.isEmpty then breakWords env.cw sw sws
           else Word.from env.cw [] :: breakWords env.cw sw sws)
        else sws := by
  rw [pipeline_eq] at h
  obtain ⟨fw, hfw, h⟩ := Option.bind_eq_some_iff.mp h
  obtain ⟨sws, hs, rfl⟩ := Option.map_eq_some_iff.mp h
  exact ⟨fw, sws, hfw, hs, rfl⟩

theorem pipeline_of_stages {env : Env} {o : Opts} {line : Text} {fw sws : List Word} (sw : Nat)
    (hfw : findWords env o.sep line = some fw) (hs : splitWords env o.splitter fw = some sws) :
    pipeline env o line sw = some (if o.breakWords then
        (if o.initialIndent.isEmpty then breakWords env.cw sw sws
         else Word.from env.cw [] :: breakWords env.cw sw sws)
      else sws) := by
  rw [pipeline_eq, hfw, Option.bind_some, hs, Option.map_some]

theorem pipeline_ind {env : Env} {o : Opts} {line : Text} {sw : Nat} {frs : List Word} {P : List Word → Prop}
    (h : pipeline env o line sw = some frs)
    (hsplit : ∀ fw sws, findWords env o.sep line = some fw → splitWords env o.splitter fw = some sws → P sws)
    (hbreak : o.breakWords = true → ∀ ws, P ws → P (breakWords env.cw sw ws))
    (hsent : ∀ ws, P ws → P (Word.from env.cw [] :: ws)) : P frs := by
  obtain ⟨fw, sws, hfw, hs, rfl⟩ := pipeline_stages h
  have h0 := hsplit fw sws hfw hs
  by_cases hb : o.breakWords = true
  · rw [if_pos hb]
    by_cases hi : o.initialIndent.isEmpty = true
    · rw [if_pos hi]; exact hbreak hb sws h0
    · rw [if_neg hi]; exact hsent _ (hbreak hb sws h0)
  · rw [if_neg hb]; exact h0

/-! ### the ASCII words in groups (what `fill_inplace` needs of a wrapped line) -/

theorem groups_end_sp (line : Text) (groups : List (List Word))
    (hflat : groups.flatten = findWordsAscii cw line) (hne : ∀ g ∈ groups, g ≠ []) :
    ∀ g ∈ groups.dropLast, (wordsText g).getLast? = some SP := by
  intro g hgd
  -- `g` ends in a word `w` that is followed by another word
  rcases List.eq_nil_or_concat groups with rfl | ⟨gs, last, rfl⟩
  · exact absurd hgd List.not_mem_nil
  rw [List.concat_eq_append] at hgd hflat hne
  rw [List.dropLast_concat] at hgd
  obtain ⟨pre, post, rfl⟩ := List.append_of_mem hgd
  rcases List.eq_nil_or_concat g with rfl | ⟨gi, w, rfl⟩
  · exact absurd rfl (hne [] (List.mem_append_left _ hgd))
  rw [List.concat_eq_append] at hflat ⊢
  have hlast : post.flatten ++ last ≠ [] :=
    List.append_ne_nil_of_right_ne_nil _ (hne last (List.mem_append_right _ List.mem_cons_self))
  have hw : w ∈ (findWordsAscii cw line).dropLast := by
    have hfl : ((pre ++ (gi ++ [w]) :: post) ++ [last]).flatten =
        (pre.flatten ++ gi) ++ w :: (post.flatten ++ last) := by simp
    rw [← hflat, hfl, List.dropLast_append_of_ne_nil (List.cons_ne_nil _ _), List.dropLast_cons_of_ne_nil hlast]
    exact List.mem_append_right _ List.mem_cons_self
  have hws := findWordsAscii_nonlast_ws cw line w hw
  obtain ⟨t, _, rfl⟩ := List.mem_map.mp (List.dropLast_subset _ hw)
  rw [wordsText_append, wordsText_cons, wordsText_nil, List.append_nil, ← List.append_assoc,
    getLast?_append_of_ne_nil _ _ hws, List.getLast?_eq_some_getLast hws]
  exact congrArg some (trimEndSp_rest_spaces t _ (List.getLast_mem hws))

end TW
