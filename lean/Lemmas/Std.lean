/-
  The `std::str` functions of `TextwrapModel/Std.lean`, function by function: what joining,
  `split('\n')`, `split("\r\n")`, `split_terminator('\n')`, `lines()`, the trims, `ends_with` and
  `strip_suffix` do to texts of a given form.
-/
import Lemmas.Bytes
namespace TW

/-! ### `joinWith`, `consHead` -/

@[simp] theorem joinWith_nil (sep : Text) : joinWith sep [] = [] := rfl
@[simp] theorem joinWith_singleton (sep a : Text) : joinWith sep [a] = a := rfl
theorem joinWith_cons_cons (sep a b : Text) (r : List Text) :
    joinWith sep (a :: b :: r) = a ++ sep ++ joinWith sep (b :: r) := rfl

theorem consHead_ne_nil (c : Char) (l : List Text) : consHead c l ≠ [] := by
  cases l <;> simp [consHead]

theorem consHead_append (c : Char) (l r : List Text) (h : l ≠ []) :
    consHead c (l ++ r) = consHead c l ++ r := by
  cases l with
  | nil => exact absurd rfl h
  | cons a t => simp [consHead]

theorem joinWith_consHead (sep : Text) (c : Char) (l : List Text) (h : l ≠ []) :
    joinWith sep (consHead c l) = c :: joinWith sep l := by
  match l, h with
  | [a], _ => simp [consHead, joinWith]
  | a :: b :: r, _ => simp [consHead, joinWith]

theorem joinWith_eq_flatten (sep a : Text) (r : List Text) :
    joinWith sep (a :: r) = a ++ (r.map fun l => sep ++ l).flatten := by
  induction r generalizing a with
  | nil => simp [joinWith]
  | cons b r ih => rw [joinWith_cons_cons, ih]; simp [List.append_assoc]

theorem joinWith_concat (sep : Text) (ps : List Text) (l : Text) (h : ps ≠ []) :
    joinWith sep (ps ++ [l]) = joinWith sep ps ++ sep ++ l := by
  match ps, h with
  | a :: r, _ => simp [joinWith_eq_flatten, List.append_assoc]

theorem mem_joinWith {sep l : Text} {ls : List Text} {c : Char} (hl : l ∈ ls) (hc : c ∈ l) :
    c ∈ joinWith sep ls := by
  match ls with
  | a :: r =>
    rw [joinWith_eq_flatten]
    rcases List.mem_cons.mp hl with rfl | hl
    · exact List.mem_append_left _ hc
    · exact List.mem_append_right _ (List.mem_flatten.mpr ⟨sep ++ l, List.mem_map_of_mem hl, List.mem_append_right _ hc⟩)

theorem joinWith_sub (sep : Text) (ls : List Text) :
    ∀ c ∈ joinWith sep ls, c ∈ sep ∨ ∃ l ∈ ls, c ∈ l := by
  match ls with
  | [] => simp [joinWith]
  | a :: r =>
    intro c hc
    simp only [joinWith_eq_flatten, List.mem_append, List.mem_flatten, List.mem_map] at hc
    rcases hc with hc | ⟨_, ⟨l, hl, rfl⟩, hc⟩
    · exact Or.inr ⟨a, by simp, hc⟩
    · exact (List.mem_append.mp hc).imp id fun h => ⟨l, by simp [hl], h⟩

theorem not_mem_joinWith {sep : Text} {ls : List Text} {c : Char} (hs : c ∉ sep) (hl : ∀ l ∈ ls, c ∉ l) :
    c ∉ joinWith sep ls :=
  fun h => (joinWith_sub sep ls c h).elim hs fun ⟨l, hm, hc⟩ => hl l hm hc

theorem joinWith_getLast (sep : Text) (ls : List Text) (l : Text) (hl : ls.getLast? = some l) (hne : l ≠ []) :
    (joinWith sep ls).getLast? = l.getLast? := by
  obtain ⟨ps, rfl⟩ := List.getLast?_eq_some_iff.mp hl
  by_cases hp : ps = []
  · subst hp; rfl
  · rw [joinWith_concat _ _ _ hp, getLast?_append_of_ne_nil _ _ hne]

theorem flatten_map_append_sep {α} (sep : Text) (f : α → Text) (ls : List α) (hne : ls ≠ []) :
    (ls.map fun l => f l ++ sep).flatten = joinWith sep (ls.map f) ++ sep := by
  induction ls with
  | nil => exact absurd rfl hne
  | cons a r ih =>
    cases r with
    | nil => simp
    | cons b r' =>
      rw [List.map_cons, List.flatten_cons, ih (by simp)]
      simp [joinWith_cons_cons]

/-! ### `split('\n')` -/

theorem splitLF_ne_nil (t : Text) : splitLF t ≠ [] := by
  fun_cases splitLF t with
  | case1 => exact List.cons_ne_nil _ _
  | case2 => exact List.cons_ne_nil _ _
  | case3 => exact consHead_ne_nil _ _

theorem splitLF_eq_cons (t : Text) : ∃ a r, splitLF t = a :: r :=
  List.exists_cons_of_ne_nil (splitLF_ne_nil t)

theorem joinWith_splitLF (t : Text) : joinWith [LF] (splitLF t) = t := by
  fun_induction splitLF t with
  | case1 => rfl
  | case2 cs ih =>
    obtain ⟨a, r, hr⟩ := splitLF_eq_cons cs
    rw [hr, joinWith_cons_cons, ← hr, ih]; rfl
  | case3 c cs _ ih => rw [joinWith_consHead _ _ _ (splitLF_ne_nil cs), ih]

theorem splitLF_no_LF (t : Text) : ∀ p ∈ splitLF t, LF ∉ p := by
  fun_induction splitLF t with
  | case1 => simp
  | case2 cs ih => exact List.forall_mem_cons.mpr ⟨List.not_mem_nil, ih⟩
  | case3 c cs hc ih =>
    obtain ⟨a, r, hs⟩ := splitLF_eq_cons cs
    rw [hs] at ih ⊢
    obtain ⟨ha, hr⟩ := List.forall_mem_cons.mp ih
    exact List.forall_mem_cons.mpr ⟨fun hm => (List.mem_cons.mp hm).elim (fun e => hc e.symm) ha, hr⟩

theorem splitLF_sub (t : Text) : ∀ p ∈ splitLF t, ∀ c ∈ p, c ∈ t :=
  fun _ hp _ hc => joinWith_splitLF t ▸ mem_joinWith hp hc

theorem splitLF_append (a b : Text) : splitLF (a ++ LF :: b) = splitLF a ++ splitLF b := by
  fun_induction splitLF a with
  | case1 => simp [splitLF]
  | case2 cs ih => simp [splitLF, ih]
  | case3 c cs hc ih =>
    simp only [List.cons_append, splitLF, if_neg hc, ih, consHead_append _ _ _ (splitLF_ne_nil cs)]

theorem splitLF_of_noLF (a : Text) (h : LF ∉ a) : splitLF a = [a] := by
  fun_induction splitLF a with
  | case1 => rfl
  | case2 cs ih => exact absurd List.mem_cons_self h
  | case3 c cs hc ih => rw [ih fun e => h (List.mem_cons_of_mem _ e)]; rfl

theorem splitLF_cons_noLF (a b : Text) (h : LF ∉ a) : splitLF (a ++ LF :: b) = a :: splitLF b := by
  rw [splitLF_append, splitLF_of_noLF a h]; rfl

theorem splitLF_joinWith_flatten (ls : List Text) (hne : ls ≠ []) :
    splitLF (joinWith [LF] ls) = (ls.map splitLF).flatten := by
  fun_induction joinWith [LF] ls with
  | case1 => exact absurd rfl hne
  | case2 a => simp
  | case3 a b r ih =>
    rw [List.append_assoc, List.singleton_append, splitLF_append, ih (List.cons_ne_nil _ _)]
    rfl

theorem splitLF_joinWith (ls : List Text) (hne : ls ≠ []) (hno : ∀ l ∈ ls, LF ∉ l) :
    splitLF (joinWith [LF] ls) = ls := by
  rw [splitLF_joinWith_flatten ls hne, List.map_congr_left fun l hl => splitLF_of_noLF l (hno l hl)]
  simp [List.flatten_eq_flatMap, List.flatMap_map]

theorem splitLF_getLast_eq_nil_iff (t : Text) :
    (splitLF t).getLast? = some [] ↔ (t = [] ∨ t.getLast? = some LF) := by
  constructor
  · intro h
    obtain ⟨ps, hps⟩ := List.getLast?_eq_some_iff.mp h
    have hj := joinWith_splitLF t
    rw [hps] at hj
    by_cases hp : ps = []
    · left; simpa [hp, joinWith] using hj.symm
    · right; rw [← hj, joinWith_concat _ _ _ hp]; simp
  · rintro (rfl | h)
    · rfl
    · obtain ⟨a, rfl⟩ := List.getLast?_eq_some_iff.mp h
      rw [show a ++ [LF] = a ++ LF :: [] from rfl, splitLF_append]
      simp [splitLF]

/-! ### `split("\r\n")` -/

theorem splitCRLF_ne_nil (t : Text) : splitCRLF t ≠ [] := by
  fun_cases splitCRLF t with
  | case1 => exact List.cons_ne_nil _ _
  | case2 => exact List.cons_ne_nil _ _
  | case3 => exact List.cons_ne_nil _ _
  | case4 => exact consHead_ne_nil _ _

theorem joinWith_splitCRLF (t : Text) : joinWith [CR, LF] (splitCRLF t) = t := by
  fun_induction splitCRLF t with
  | case1 => rfl
  | case2 => rfl
  | case3 c d cs h ih =>
    obtain ⟨a, r, hr⟩ := List.exists_cons_of_ne_nil (splitCRLF_ne_nil cs)
    rw [hr, joinWith_cons_cons, ← hr, ih, h.1, h.2]; rfl
  | case4 c d cs _ ih => rw [joinWith_consHead _ _ _ (splitCRLF_ne_nil _), ih]

theorem splitCRLF_cons_nomatch (c : Char) (t : Text) (h : ¬ (c = CR ∧ t.head? = some LF)) :
    splitCRLF (c :: t) = consHead c (splitCRLF t) := by
  cases t with
  | nil => rfl
  | cons d ds => exact if_neg (by simpa using h)

theorem splitCRLF_append (a b : Text) : splitCRLF (a ++ CR :: LF :: b) = splitCRLF a ++ splitCRLF b := by
  fun_induction splitCRLF a with
  | case1 => simp [splitCRLF]
  | case2 c =>
    have : ¬ (c = CR ∧ CR = LF) := fun h => absurd h.2 (by decide)
    simp [splitCRLF, this, consHead]
  | case3 c d cs h ih => simp [splitCRLF, h, ih]
  | case4 c d cs h ih =>
    rw [List.cons_append] at ih
    simp only [List.cons_append, splitCRLF, if_neg h, ih, consHead_append _ _ _ (splitCRLF_ne_nil _)]

theorem splitCRLF_of_noLF (t : Text) (h : LF ∉ t) : splitCRLF t = [t] := by
  fun_induction splitCRLF t with
  | case1 => rfl
  | case2 => rfl
  | case3 c d cs hcd => exact absurd (hcd.2 ▸ List.mem_cons_of_mem _ List.mem_cons_self) h
  | case4 c d cs _ ih => rw [ih fun hm => h (List.mem_cons_of_mem _ hm)]; rfl

/-! ### `split_terminator('\n')` -/

theorem splitLF_eq_splitTerminatorLF (t : Text) :
    splitLF t = splitTerminatorLF t ++ (if t = [] ∨ t.getLast? = some LF then [[]] else []) := by
  unfold splitTerminatorLF
  by_cases hl : (splitLF t).getLast? = some []
  · obtain ⟨ps, hps⟩ := List.getLast?_eq_some_iff.mp hl
    simp [(splitLF_getLast_eq_nil_iff t).mp hl, hps]
  · simp only
    rw [if_neg (fun h => hl ((splitLF_getLast_eq_nil_iff t).mpr h)), List.append_nil]

theorem splitTerminatorLF_no_LF (s : Text) : ∀ l ∈ splitTerminatorLF s, LF ∉ l :=
  fun l hl => splitLF_no_LF s l (by rw [splitLF_eq_splitTerminatorLF]; exact List.mem_append_left _ hl)

theorem splitTerminatorLF_eq_nil {t : Text} (h : splitTerminatorLF t = []) : t = [] := by
  have := splitLF_eq_splitTerminatorLF t
  rw [h, List.nil_append] at this
  have hj := joinWith_splitLF t
  rw [this] at hj
  split at hj <;> simpa [joinWith] using hj.symm

theorem joinWith_map_splitTerminatorLF (f : Text → Text) (hf : f [] = []) (t : Text) :
    joinWith [LF] ((splitTerminatorLF t).map f) ++ (if t.getLast? = some LF then [LF] else []) =
      joinWith [LF] ((splitLF t).map f) := by
  rw [splitLF_eq_splitTerminatorLF t]
  by_cases h : t.getLast? = some LF
  · have hne : (splitTerminatorLF t).map f ≠ [] := fun hnil => by
      simp [splitTerminatorLF_eq_nil (List.map_eq_nil_iff.mp hnil)] at h
    simp [h, hf, joinWith_concat _ _ _ hne]
  · by_cases h0 : t = []
    · subst h0; simp [splitTerminatorLF, splitLF, hf]
    · simp [h, h0]

theorem joinWith_splitTerminatorLF (t : Text) :
    joinWith [LF] (splitTerminatorLF t) ++ (if t.getLast? = some LF then [LF] else []) = t := by
  simpa [joinWith_splitLF] using joinWith_map_splitTerminatorLF id rfl t

/-! ### `lines` -/

/-- `split_inclusive('\n')` from the `split('\n')` pieces -/
def inclOf : List Text → List Text
  | [] => []
  | [last] => if last.isEmpty then [] else [last]
  | p :: q :: r => (p ++ [LF]) :: inclOf (q :: r)

theorem splitInclusiveLF_eq_inclOf (t : Text) : splitInclusiveLF t = inclOf (splitLF t) := by
  fun_induction splitLF t with
  | case1 => rfl
  | case2 cs ih =>
    obtain ⟨a, r, hs⟩ := splitLF_eq_cons cs
    rw [splitInclusiveLF, if_pos rfl, ih, hs]; rfl
  | case3 c cs h ih =>
    obtain ⟨a, r, hs⟩ := splitLF_eq_cons cs
    rw [splitInclusiveLF, if_neg h, ih, hs]
    match a, r with
    | [], [] => rfl
    | _ :: _, [] => rfl
    | _, _ :: _ => rfl

/-- strip one trailing `'\r'` -/
def stripCR (p : Text) : Text := if p.getLast? = some CR then p.dropLast else p

theorem stripLineEnding_LF (p : Text) : stripLineEnding (p ++ [LF]) = stripCR p := by
  unfold stripLineEnding stripSuffixChar? stripCR
  simp only [List.getLast?_append, List.getLast?_singleton, Option.some_or, List.dropLast_concat, if_true]
  cases h : p.getLast? with
  | none => simp
  | some d => by_cases hd : d = CR <;> simp [hd]

theorem stripLineEnding_noLF (p : Text) (h : LF ∉ p) : stripLineEnding p = p := by
  unfold stripLineEnding stripSuffixChar?
  cases hl : p.getLast? with
  | none => rfl
  | some d =>
    have : d ≠ LF := fun he => h (he ▸ List.mem_of_getLast? hl)
    simp [this]

theorem stripCR_noCR (p : Text) (h : CR ∉ p) : stripCR p = p := by
  unfold stripCR
  split
  · next hl => exact absurd (List.mem_of_getLast? hl) h
  · rfl

theorem stripCR_nil_iff (p : Text) : stripCR p = [] ↔ (p = [] ∨ p = [CR]) := by
  unfold stripCR
  constructor
  · intro h
    split at h
    · next hl =>
      obtain ⟨ys, rfl⟩ := List.getLast?_eq_some_iff.mp hl
      simp at h; subst h; right; rfl
    · exact Or.inl h
  · rintro (rfl | rfl)
    · simp
    · simp [CR]

/-- `str::lines()` from the pieces -/
def linesOf : List Text → List Text
  | [] => []
  | [last] => if last.isEmpty then [] else [last]
  | p :: q :: r => stripCR p :: linesOf (q :: r)

theorem lines_eq_linesOf (t : Text) : lines t = linesOf (splitLF t) := by
  unfold lines
  rw [splitInclusiveLF_eq_inclOf]
  have hno := splitLF_no_LF t
  generalize splitLF t = ps at hno
  fun_induction inclOf ps with
  | case1 => rfl
  | case2 last h => simp [linesOf, h]
  | case3 last h => simp [linesOf, h, stripLineEnding_noLF last (hno last List.mem_cons_self)]
  | case4 p q r ih =>
    rw [List.map_cons, stripLineEnding_LF, ih fun x hx => hno x (List.mem_cons_of_mem _ hx)]
    rfl

theorem lines_of_noCR (t : Text) (hcr : CR ∉ t) : lines t = splitTerminatorLF t := by
  have hno : ∀ p ∈ splitLF t, CR ∉ p := fun p hp hc => hcr (splitLF_sub t p hp CR hc)
  rw [lines_eq_linesOf]
  unfold splitTerminatorLF
  simp only
  generalize splitLF t = ps at hno
  -- `linesOf` drops an empty last piece, as `split_terminator` does, and without `'\r'` it strips nothing
  fun_induction linesOf ps with
  | case1 => rfl
  | case2 last h => rw [List.isEmpty_iff.mp h]; rfl
  | case3 last h => cases last <;> simp_all
  | case4 p q r ih =>
    rw [stripCR_noCR p (hno p List.mem_cons_self), ih fun x hx => hno x (List.mem_cons_of_mem _ hx),
      List.getLast?_cons_cons, List.dropLast_cons_cons]
    split <;> rfl

theorem lines_cons {a : Text} (b : Text) (h : LF ∉ a) : lines (a ++ LF :: b) = stripCR a :: lines b := by
  obtain ⟨p, r, hs⟩ := splitLF_eq_cons b
  rw [lines_eq_linesOf, lines_eq_linesOf, splitLF_cons_noLF a b h, hs]
  rfl

theorem lines_of_noLF {a : Text} (h : LF ∉ a) : lines a = if a.isEmpty then [] else [a] := by
  rw [lines_eq_linesOf, splitLF_of_noLF a h]; rfl

theorem linesOf_sub (ps : List Text) : ∀ l ∈ linesOf ps, ∃ p ∈ ps, ∀ c ∈ l, c ∈ p := by
  fun_induction linesOf ps with
  | case1 => exact fun _ h => absurd h List.not_mem_nil
  | case2 => exact fun _ h => absurd h List.not_mem_nil
  | case3 last => exact List.forall_mem_singleton.mpr ⟨last, List.mem_singleton_self _, fun _ h => h⟩
  | case4 p q r ih =>
    refine List.forall_mem_cons.mpr ⟨⟨p, List.mem_cons_self, fun c hc => ?_⟩, fun l hl => ?_⟩
    · unfold stripCR at hc
      split at hc
      · exact List.dropLast_subset _ hc
      · exact hc
    · obtain ⟨x, hx, h⟩ := ih l hl
      exact ⟨x, List.mem_cons_of_mem _ hx, h⟩

theorem lines_no_LF (t : Text) : ∀ l ∈ lines t, LF ∉ l := by
  intro l hl h
  rw [lines_eq_linesOf] at hl
  obtain ⟨p, hp, hsub⟩ := linesOf_sub _ l hl
  exact splitLF_no_LF t p hp (hsub _ h)

/-! ### trimming -/

@[simp] theorem trimEndSp_nil : trimEndSp [] = [] := rfl

theorem trimEndSp_cons (c : Char) (cs : Text) :
    trimEndSp (c :: cs) = if trimEndSp cs = [] ∧ c = SP then [] else c :: trimEndSp cs := by
  simp only [trimEndSp]
  split
  · next h => rw [h]; by_cases hc : c = SP <;> simp [hc]
  · next r hr =>
    have : trimEndSp cs ≠ [] := by intro h; exact hr h
    simp [this]

/-- `trim_end_matches` drops from the reversed text while the predicate holds; what the trims do is
    then read off core's lemmas on `dropWhile` and `takeWhile` -/
theorem trimEndBy_eq (p : Char → Bool) (t : Text) : trimEndBy p t = (t.reverse.dropWhile p).reverse := by
  induction t with
  | nil => rfl
  | cons c cs ih =>
    simp only [trimEndBy, ih, List.reverse_cons, List.dropWhile_append]
    cases h : List.dropWhile p cs.reverse with
    | nil => by_cases hc : p c <;> simp [hc]
    | cons d ds => simp

theorem trimEndSp_eq (t : Text) : trimEndSp t = (t.reverse.dropWhile (· == SP)).reverse := by
  rw [← trimEndBy_eq]
  induction t with
  | nil => rfl
  | cons c cs ih => simp [trimEndSp, trimEndBy, ih]

theorem trimEndSp_append_takeWhile (t : Text) :
    trimEndSp t ++ (t.reverse.takeWhile (· == SP)).reverse = t := by
  rw [trimEndSp_eq, ← List.reverse_append, List.takeWhile_append_dropWhile, List.reverse_reverse]

theorem drop_trimEndSp (t : Text) : t.drop (trimEndSp t).length = (t.reverse.takeWhile (· == SP)).reverse := by
  have := congrArg (List.drop (trimEndSp t).length) (trimEndSp_append_takeWhile t)
  rwa [List.drop_left, eq_comm] at this

theorem trimEndSp_rest_spaces (t : Text) : ∀ c ∈ t.drop (trimEndSp t).length, c = SP := by
  intro c hc
  rw [drop_trimEndSp, List.mem_reverse] at hc
  simpa using List.all_eq_true.mp List.all_takeWhile c hc

theorem trimEndSp_append_rest (t : Text) : trimEndSp t ++ t.drop (trimEndSp t).length = t := by
  rw [drop_trimEndSp, trimEndSp_append_takeWhile]

theorem trimEndSp_no_trailing (t : Text) : (trimEndSp t).getLast? ≠ some SP := by
  intro h
  have := List.head?_dropWhile_not (· == SP) t.reverse
  rw [trimEndSp_eq, List.getLast?_reverse] at h
  simp [h] at this

theorem trimEndSp_append_spaces (x sp : Text) (h : ∀ c ∈ sp, c = SP) : trimEndSp (x ++ sp) = trimEndSp x := by
  rw [trimEndSp_eq, trimEndSp_eq, List.reverse_append,
    List.dropWhile_append_of_pos fun c hc => by simpa using h c (List.mem_reverse.mp hc)]

theorem trimEndSp_id (x : Text) (h : x.getLast? ≠ some SP) : trimEndSp x = x := by
  rw [trimEndSp_eq]
  cases hr : x.reverse with
  | nil => rw [← List.reverse_reverse x, hr]; rfl
  | cons d ds =>
    have hd : x.getLast? = some d := by rw [← List.head?_reverse, hr]; rfl
    rw [List.dropWhile_cons_of_neg (by simpa using fun e : d = SP => h (e ▸ hd)), ← hr, List.reverse_reverse]

theorem trimEndSp_ne_nil_of_head (c : Char) (cs : Text) (hc : c ≠ SP) : trimEndSp (c :: cs) ≠ [] :=
  fun h => hc (trimEndSp_rest_spaces (c :: cs) c (by rw [h]; simp))

theorem trimStartBy_eq (p : Char → Bool) (l : Text) : trimStartBy p l = l.dropWhile p := by
  induction l with
  | nil => rfl
  | cons c cs ih => simp only [trimStartBy, List.dropWhile_cons, ih]

theorem take_trimStart (p : Char → Bool) (l : Text) :
    l.take (l.length - (trimStartBy p l).length) = l.takeWhile p := by
  have := List.findIdx_le_length (xs := l) (p := fun a => !p a)
  rw [trimStartBy_eq, List.dropWhile_eq_drop_findIdx_not, List.takeWhile_eq_take_findIdx_not, List.length_drop,
    Nat.sub_sub_self this]

theorem trimEndBy_all (p : Char → Bool) (t : Text) (h : t.all p = true) : trimEndBy p t = [] := by
  rw [trimEndBy_eq, ← List.append_nil t.reverse,
    List.dropWhile_append_of_pos fun c hc => List.all_eq_true.mp h c (List.mem_reverse.mp hc)]
  rfl

theorem trimEndBy_subset (p : Char → Bool) (t : Text) : ∀ c ∈ trimEndBy p t, c ∈ t := by
  intro c hc
  rw [trimEndBy_eq, List.mem_reverse] at hc
  exact List.mem_reverse.mp (List.dropWhile_subset p hc)

/-! ### `ends_with`, `strip_suffix` -/

theorem endsWith_append_self (t e : Text) : endsWith (t ++ e) e = true :=
  List.isSuffixOf_iff_suffix.mpr (List.suffix_append t e)

theorem endsWith_eq_false_of_getLast {t e : Text} {c : Char} (he : e.getLast? = some c) (h : t.getLast? ≠ some c) :
    endsWith t e = false := by
  apply Bool.eq_false_iff.mpr
  intro hs
  obtain ⟨pre, rfl⟩ := List.isSuffixOf_iff_suffix.mp hs
  exact h (by rw [List.getLast?_append, he]; rfl)

theorem stripSuffix?_append (p e : Text) : stripSuffix? (p ++ e) e = some p := by
  have := endsWith_append_self p e
  simp_all [stripSuffix?, endsWith]

theorem stripSuffix?_none {p e : Text} {c : Char} (he : e.getLast? = some c) (h : p.getLast? ≠ some c) :
    stripSuffix? p e = none := by
  have := endsWith_eq_false_of_getLast he h
  simp_all [stripSuffix?, endsWith]

end TW
